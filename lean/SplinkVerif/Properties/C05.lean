import SplinkVerif.Lemmas.CC
import SplinkVerif.Generated.Arith
/-!
# C05 — clusters are exactly the connected components of the thresholded graph

All statements are about `Model/CC.lean`, the statement-by-statement model of
`solve_connected_components`, for **every** `n` and **every** edge list whose
endpoints are nodes — no bound on size, shape or id order.
-/
namespace SplinkVerif.C05
open SplinkVerif SplinkVerif.CC

/-- Adjacency of the thresholded graph on nodes `0..n-1` (edges are undirected).  `Lemmas.Adj`, in which
`Lemmas/CC.lean` is stated, has the same body, so its lemmas apply as they are. -/
def Adj (n : Nat) (edges : List Edge) (i j : Nat) : Prop :=
  i < n ∧ j < n ∧ ((i, j) ∈ edges ∨ (j, i) ∈ edges)

/-- The loop exits because no row needs updating — never because the fuel
(`n*n+1` passes) ran out: the model's `run` *is* the unbounded `while` loop. -/
theorem run_terminates (n : Nat) (edges : List Edge) (hE : ∀ e ∈ edges, e.1 < n ∧ e.2 < n) :
    updCount n (run n edges) = 0 :=
  Lemmas.run_updCount_zero n edges hE

/-- Every input record is returned exactly once. -/
theorem each_node_once (n : Nat) (edges : List Edge) (hE : ∀ e ∈ edges, e.1 < n ∧ e.2 < n) :
    ((cluster n edges).map (·.1)).Perm (List.range n) :=
  Lemmas.cluster_nodes_perm n edges hE

/-- Main theorem: the cluster id of every node is the smallest node reachable
from it — so clusters are exactly the connected components and the id is the
minimum member. -/
theorem run_correct (n : Nat) (edges : List Edge) (hE : ∀ e ∈ edges, e.1 < n ∧ e.2 < n) :
    ∀ i c, (i, c) ∈ cluster n edges →
      Reach (Adj n edges) i c ∧ ∀ j, Reach (Adj n edges) i j → c ≤ j :=
  Lemmas.cluster_is_min_reachable n edges hE

/-- Two records share a cluster id iff they are joined by a path of kept edges. -/
theorem same_cluster_iff_reach (n : Nat) (edges : List Edge)
    (hE : ∀ e ∈ edges, e.1 < n ∧ e.2 < n) (i j ci cj : Nat)
    (hi : (i, ci) ∈ cluster n edges) (hj : (j, cj) ∈ cluster n edges) :
    ci = cj ↔ Reach (Adj n edges) i j :=
  Lemmas.same_cluster_iff_reach n edges hE i j ci cj hi hj

/-- A record without a qualifying edge (self loops aside) is a singleton cluster
labelled by itself. -/
theorem isolated_is_singleton (n : Nat) (edges : List Edge)
    (hE : ∀ e ∈ edges, e.1 < n ∧ e.2 < n) (i : Nat)
    (hiso : ∀ e ∈ edges, (e.1 = i ∨ e.2 = i) → e = (i, i)) :
    ∀ j c, (j, c) ∈ cluster n edges → (c = i ↔ j = i) := by
  intro j c h
  have hs := Lemmas.inv_run n edges hE
  obtain ⟨hjn, rfl⟩ := Lemmas.mem_cluster n edges hE j c h
  constructor
  · intro heq
    have h1 := hs.B j hjn
    rw [heq] at h1
    exact Lemmas.reach_isolated n edges i hiso j (Lemmas.reach_symm (Lemmas.adj_symm n edges) h1)
  · rintro rfl
    exact Lemmas.reach_isolated n edges j hiso _ (hs.B j hjn)

/-- Edges enter the graph iff `match_probability >= threshold`; with no
threshold every edge enters. -/
theorem threshold_filter {α : Type} (ge : α → α → Bool) (thr : Option α)
    (edges : List (Nat × Nat × α)) (l r : Nat) :
    (l, r) ∈ thresholdEdges ge thr edges ↔
      ∃ p, (l, r, p) ∈ edges ∧ (∀ t, thr = some t → ge p t = true) :=
  Lemmas.mem_thresholdEdges ge thr edges l r

/-- **A threshold that is given is applied** — about the *translated* `threshold_args_to_match_prob`
(`Generated/Arith.lean`, regenerated from `splink/internals/misc.py` on every run), for every number type
and every value, boundary values (weight `0`, probability `0`) included: a probability is passed through, a
match weight `w` becomes `2^w / (1 + 2^w)` and is never dropped, no argument means no threshold, both
arguments raise. -/
theorem threshold_args_applied {α : Type} [ANum α] (p w : α) :
    Gen.threshold_args_to_match_prob (some p) none = some (some p) ∧
    Gen.threshold_args_to_match_prob none (some w) =
      some (some (ANum.div (ANum.pow2 w) (ANum.add (ANum.ofNat 1) (ANum.pow2 w)))) ∧
    Gen.threshold_args_to_match_prob (none : Option α) none = some none ∧
    Gen.threshold_args_to_match_prob (some p) (some w) = none :=
  ⟨rfl, rfl, rfl, rfl⟩

/-- …hence with a weight threshold the clustering never sees "no threshold": edges below `2^w/(1+2^w)` are
removed (composition of `threshold_args_applied` with `threshold_filter`'s `thresholdEdges`). -/
theorem weight_threshold_filters {α : Type} [ANum α] (ge : α → α → Bool) (w : α)
    (edges : List (Nat × Nat × α)) (e : Edge)
    (h : e ∈ thresholdEdges ge ((Gen.threshold_args_to_match_prob none (some w)).getD none) edges) :
    ∃ q, (e.1, e.2, q) ∈ edges ∧
      ge q (ANum.div (ANum.pow2 w) (ANum.add (ANum.ofNat 1) (ANum.pow2 w))) = true := by
  rw [(threshold_args_applied w w).2.1] at h
  obtain ⟨q, hq, hge⟩ := (threshold_filter ge _ edges e.1 e.2).mp h
  exact ⟨q, hq, hge _ rfl⟩

/-- Non-vacuity: a concrete 6-node graph (path 5–3–1 with a worst-case id
order, an edge 0–4, node 2 isolated) meets the hypotheses and clusters as expected. -/
example : cluster 6 [(5, 3), (3, 1), (4, 0)] =
    [(0, 0), (1, 1), (2, 2), (3, 1), (4, 0), (5, 1)] := by decide +kernel

/-- Non-vacuity with pending updates: the path 4–3–2–1–0 with identity id order
needs three further passes after the forced first one (counts 2, 1, 0). -/
example : trace 5 [(4, 3), (3, 2), (2, 1), (1, 0)] = [2, 1, 0] ∧
    cluster 5 [(4, 3), (3, 2), (2, 1), (1, 0)] = [(0, 0), (1, 0), (2, 0), (3, 0), (4, 0)] := by decide +kernel

end SplinkVerif.C05
