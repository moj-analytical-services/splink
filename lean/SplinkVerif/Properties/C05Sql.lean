import SplinkVerif.Lemmas.CCSql
import SplinkVerif.Properties.C05
/-!
# C05 at the level of the emitted SQL

`Generated/CCSql.lean` holds the statements `solve_connected_components` emits (T-sql translator, regenerated on
every run); `Model/CCSql.lean` is the Python control flow around them.  The theorems below say that this pipeline,
evaluated with the SQL semantics `Rel.eval`, returns exactly the rows of the functional model `CC.cluster` — hence every
C05 theorem (clusters = connected components, id = smallest member, every record once) is a theorem about the
regenerated SQL.  A change to any of the SQL templates changes `Generated/CCSql.lean` and these proofs stop checking.

All of them are cases of `cluster_core` / `trace_core` (any node subset, any row order) of `Lemmas/CCSql.lean`, proved
there statement by statement on top of `Lemmas/Rel.lean` (generic facts about `Rel.eval`).
-/
namespace SplinkVerif.C05Sql
open SplinkVerif SplinkVerif.Rel

/-- A result row `(node_id, cluster_id)`. -/
def pairRow (p : Nat × Nat) : Row := [Val.int (p.1 : Int), Val.int (p.2 : Int)]

/-- Row order of the registered input tables does not matter (up to the order of the result). -/
theorem sql_cluster_input_order_irrelevant (n : Nat) (edges : List (Nat × Nat × Int)) (thr : Option Int)
    (hE : ∀ e ∈ edges, e.1 < n ∧ e.2.1 < n) (nodes edgeTab : List Row)
    (hN : nodes.Perm (CCSql.nodeRows n)) (hT : edgeTab.Perm (CCSql.edgeRows edges)) :
    (CCSql.cluster nodes edgeTab (thr.map Val.int) (CC.fuel n)).Perm
      ((CC.cluster n (kept thr edges)).map pairRow) := by
  have h := Lemmas.CCSql.cluster_core n (List.range n) edges thr List.nodup_range (fun _ hi => List.mem_range.mp hi)
    (Lemmas.CCSql.ends_mem_range hE) nodes edgeTab hN hT
  rwa [Lemmas.CCSql.filter_range_cluster hE] at h

/-- **Refinement.**  For every number of nodes, every edge list whose endpoints are nodes (duplicates, both
orientations and self loops allowed) and every threshold (or none), the SQL pipeline returns a permutation of the rows
of `CC.cluster`. -/
theorem sql_cluster_perm_model (n : Nat) (edges : List (Nat × Nat × Int)) (thr : Option Int)
    (hE : ∀ e ∈ edges, e.1 < n ∧ e.2.1 < n) :
    (CCSql.cluster (CCSql.nodeRows n) (CCSql.edgeRows edges) (thr.map Val.int) (CC.fuel n)).Perm
      ((CC.cluster n (kept thr edges)).map pairRow) :=
  sql_cluster_input_order_irrelevant n edges thr hE _ _ (List.Perm.refl _) (List.Perm.refl _)

/-- The logged per-pass counts of the SQL pipeline are the model's. -/
theorem sql_trace_eq_model (n : Nat) (edges : List (Nat × Nat × Int)) (thr : Option Int)
    (hE : ∀ e ∈ edges, e.1 < n ∧ e.2.1 < n) :
    CCSql.trace (CCSql.nodeRows n) (CCSql.edgeRows edges) (thr.map Val.int) (CC.fuel n)
      = CC.trace n (kept thr edges) :=
  Lemmas.CCSql.trace_core n (List.range n) edges thr List.nodup_range (fun _ hi => List.mem_range.mp hi)
    (Lemmas.CCSql.ends_mem_range hE) _ _ (List.Perm.refl _) (List.Perm.refl _)

/-- **C05 for the regenerated SQL**: every returned row `(i, c)` has `c` = the smallest node reachable from `i` through
kept edges. -/
theorem sql_clusters_are_components (n : Nat) (edges : List (Nat × Nat × Int)) (thr : Option Int)
    (hE : ∀ e ∈ edges, e.1 < n ∧ e.2.1 < n) (i c : Nat)
    (h : pairRow (i, c) ∈ CCSql.cluster (CCSql.nodeRows n) (CCSql.edgeRows edges) (thr.map Val.int) (CC.fuel n)) :
    Reach (C05.Adj n (kept thr edges)) i c ∧ ∀ j, Reach (C05.Adj n (kept thr edges)) i j → c ≤ j := by
  rw [(sql_cluster_perm_model n edges thr hE).mem_iff, List.mem_map] at h
  obtain ⟨p, hp, hpe⟩ := h
  cases Lemmas.CCSql.pairRow_inj hpe
  exact Lemmas.cluster_is_min_reachable n (kept thr edges) (Lemmas.CCSql.kept_lt hE) i c hp

/-- Every node is returned exactly once by the SQL pipeline. -/
theorem sql_each_node_once (n : Nat) (edges : List (Nat × Nat × Int)) (thr : Option Int)
    (hE : ∀ e ∈ edges, e.1 < n ∧ e.2.1 < n) :
    ((CCSql.cluster (CCSql.nodeRows n) (CCSql.edgeRows edges) (thr.map Val.int) (CC.fuel n)).map
      fun r => r.getD 0 Val.null).Perm ((List.range n).map fun (i : Nat) => Val.int (i : Int)) := by
  refine ((sql_cluster_perm_model n edges thr hE).map _).trans ?_
  have h := (Lemmas.cluster_nodes_perm n (kept thr edges) (Lemmas.CCSql.kept_lt hE)).map fun (i : Nat) => Val.int (i : Int)
  rw [List.map_map] at h ⊢
  exact h

/-- **Refinement on a node subset.**  The multi-threshold code (C11) calls the same pipeline on a subset `S` of the
nodes (`__splink__nodes_in_play`, any row order) with edges between nodes of `S`; the functional model
(`MultiThreshold.ccAt`) runs `CC.cluster` on all `n` nodes and keeps the rows of `S` (nodes outside `S` are isolated
and never interact).  `sql_cluster_perm_model` is the case `S = List.range n`. -/
theorem sql_cluster_perm_model_sub (n : Nat) (S : List Nat) (edges : List (Nat × Nat × Int)) (thr : Option Int)
    (hS : S.Nodup) (hSn : ∀ i ∈ S, i < n) (hE : ∀ e ∈ edges, e.1 ∈ S ∧ e.2.1 ∈ S) :
    (CCSql.cluster (S.map fun (i : Nat) => [Val.int (i : Int)]) (CCSql.edgeRows edges) (thr.map Val.int)
        (CC.fuel n)).Perm
      (((CC.cluster n (kept thr edges)).filter fun r => S.contains r.1).map pairRow) :=
  Lemmas.CCSql.cluster_core n S edges thr hS hSn hE _ _ (List.Perm.refl _) (List.Perm.refl _)

/-- The per-pass counts of the subset run are those of the model on all `n` nodes (isolated outside nodes never need
updating), so the subset run takes exactly the model's number of passes. -/
theorem sql_trace_eq_model_sub (n : Nat) (S : List Nat) (edges : List (Nat × Nat × Int)) (thr : Option Int)
    (hS : S.Nodup) (hSn : ∀ i ∈ S, i < n) (hE : ∀ e ∈ edges, e.1 ∈ S ∧ e.2.1 ∈ S) :
    CCSql.trace (S.map fun (i : Nat) => [Val.int (i : Int)]) (CCSql.edgeRows edges) (thr.map Val.int) (CC.fuel n)
      = CC.trace n (kept thr edges) :=
  Lemmas.CCSql.trace_core n S edges thr hS hSn hE _ _ (List.Perm.refl _) (List.Perm.refl _)

/-- Non-vacuity: the SQL pipeline on a concrete graph (path 4–3–2–1–0: three further passes after the forced one). -/
example : CCSql.trace (CCSql.nodeRows 5) (CCSql.edgeRows [(4, 3, 1), (3, 2, 1), (2, 1, 1), (1, 0, 1)]) none (CC.fuel 5)
    = [2, 1, 0] := by decide +kernel

/-- Non-vacuity of the subset statement: nodes `4, 0, 2` of `0..4` in that order, one edge 4–2. -/
example : CCSql.cluster ([4, 0, 2].map fun (i : Nat) => [Val.int (i : Int)]) (CCSql.edgeRows [(4, 2, 1)]) none (CC.fuel 5)
    = [pairRow (4, 2), pairRow (0, 0), pairRow (2, 2)] := by decide +kernel

end SplinkVerif.C05Sql
