import SplinkVerif.Lemmas.GraphMetrics
/-!
# C19 — graph metrics equal their graph-theoretic definitions

All statements are about `Model/GraphMetrics.lean`,
the statement-by-statement model of `compute_graph_metrics`, for **every**
number of records `n`, clustering `cid`, kept-edge list `es`, row order `order`
of the integer mapping and **every** bridge finder `bridges` (igraph is a
parameter) — no bound on size or shape.

Hypotheses, all decidable and stated where used:
* `Consistent n cid es` — every kept edge joins two records of the same cluster;
* `Simple es` — edges distinct as unordered pairs, no self loop;
* `es.Nodup`, endpoints `∈ order`, `(bridges g).Nodup` — for the edge table.
-/
namespace SplinkVerif.C19
open SplinkVerif SplinkVerif.GraphMetrics SplinkVerif.Lemmas.GM

/-- `node_degree` counts the edge rows in which the record is the left endpoint plus those in
which it is the right endpoint (the `UNION ALL` of both orientations) — for any edge list. -/
theorem degree_counts_rows (es : List Edge) (i : Nat) :
    nodeDegree es i = (es.filter fun e => e.1 == i).length + (es.filter fun e => e.2 == i).length :=
  nodeDegree_eq es i

/-- On a simple graph `node_degree` is the number of incident edges, and also the number of
distinct neighbours (the neighbour list has no repetition and lists exactly the adjacent records). -/
theorem degree_def (es : List Edge) (i : Nat) (hS : Simple es) :
    nodeDegree es i = (es.filter fun e => e.1 == i || e.2 == i).length ∧
      (neighbours es i).Nodup ∧ (neighbours es i).length = nodeDegree es i ∧
      ∀ x, x ∈ neighbours es i ↔ ((i, x) ∈ es ∨ (x, i) ∈ es) :=
  ⟨nodeDegree_incident es i (simple_no_loop hS), neighbours_nodup hS i, neighbours_length es i,
    fun _ => mem_neighbours⟩

/-- Handshake: the degrees of a cluster sum to twice the number of edges inside it, given every
kept edge lies inside one cluster. -/
theorem handshake (n : Nat) (cid : Nat → Nat) (es : List Edge) (c : Nat) (hC : Consistent n cid es) :
    ((members n cid c).map (nodeDegree es)).sum = 2 * (edgesIn cid c es).length :=
  Lemmas.GM.handshake n cid es c hC

/-- `n_nodes` is the number of records of the cluster and `n_edges` (= `SUM(node_degree)/2.0`) is
the number of kept edges inside it. -/
theorem size_and_edge_count_def (n : Nat) (cid : Nat → Nat) (es : List Edge) (c : Nat)
    (hC : Consistent n cid es) :
    (clusterRow (nodesTable n cid es) c).nNodes = (members n cid c).length ∧
      IsQuot (clusterRow (nodesTable n cid es) c).nEdges ((edgesIn cid c es).length : Int) 1 := by
  rw [clusterRow_nodesTable]
  refine ⟨rfl, Nat.succ_ne_zero 1, Nat.one_ne_zero, ?_⟩
  show (((members n cid c).map (nodeDegree es)).sum : Int) * (1 : Nat) = _ * (2 : Nat)
  rw [Lemmas.GM.handshake n cid es c hC]
  push_cast
  ring

/-- `density = 2E / (k (k-1))` for a cluster of `k > 1` records with `E` inner edges, NULL for
`k ≤ 1`; it is ≥ 0 and, on a simple graph, ≤ 1. -/
theorem density_def (n : Nat) (cid : Nat → Nat) (es : List Edge) (c : Nat) (hC : Consistent n cid es) :
    let k := (members n cid c).length
    let E := (edgesIn cid c es).length
    (k > 1 → ∃ d, (clusterRow (nodesTable n cid es) c).density = some d ∧
        IsQuot d (2 * (E : Int)) (k * (k - 1)) ∧ 0 ≤ d.num ∧ (Simple es → d.num ≤ d.den)) ∧
    (k ≤ 1 → (clusterRow (nodesTable n cid es) c).density = none) :=
  Lemmas.GM.density_def n cid es c hC

/-- `cluster_centralisation = Σ (maxdeg − deg i) / ((k−1)(k−2))` over the `k > 2` records of the
cluster, where `maxdeg` is the largest degree in the cluster; NULL for `k ≤ 2`.  It is ≥ 0, and
≤ 1 on a simple graph with a consistent clustering in which no member of the cluster is isolated
(a connected component of ≥ 2 records); that last hypothesis is not used by the proof
(`C19B.centralisation_le_one_general` states the bound without it). -/
theorem centralisation_def (n : Nat) (cid : Nat → Nat) (es : List Edge) (c : Nat) :
    let ms := members n cid c
    let k := ms.length
    (k > 2 → ∃ z M, (clusterRow (nodesTable n cid es) c).centralisation = some z ∧
        (∀ i ∈ ms, nodeDegree es i ≤ M) ∧ (∃ i ∈ ms, nodeDegree es i = M) ∧
        IsQuot z (((ms.map fun i => M - nodeDegree es i).sum : Nat) : Int) ((k - 1) * (k - 2)) ∧
        0 ≤ z.num ∧
        (Simple es → Consistent n cid es → (∀ i ∈ ms, 1 ≤ nodeDegree es i) → z.num ≤ z.den)) ∧
    (k ≤ 2 → (clusterRow (nodesTable n cid es) c).centralisation = none) :=
  Lemmas.GM.centralisation_def n cid es c

/-- `node_centrality = degree / (cluster_size − 1)` in a cluster of more than one record (≤ 1 when
the degree is at most `size − 1`), and `0` in a singleton cluster. -/
theorem node_centrality_def (d s : Nat) :
    (s > 1 → IsQuot (nodeCentrality d s) d (s - 1) ∧
        (d ≤ s - 1 → (nodeCentrality d s).num ≤ (nodeCentrality d s).den)) ∧
    (s ≤ 1 → nodeCentrality d s = ⟨0, 1⟩) := by
  unfold nodeCentrality
  refine ⟨fun hs => ?_, fun hs => if_neg (Nat.not_lt.mpr hs)⟩
  rw [if_pos hs]
  have h1 : s - 1 ≠ 0 := by omega
  exact ⟨⟨h1, h1, rfl⟩, fun h => Int.ofNat_le.mpr h⟩

/-- On a simple graph with a consistent clustering a record's degree is at most `size − 1`, so its
`node_centrality` lies in `0..1`. -/
theorem degree_le_size_pred (n : Nat) (cid : Nat → Nat) (es : List Edge) (hS : Simple es)
    (hC : Consistent n cid es) (i : Nat) (hi : i < n) :
    nodeDegree es i ≤ clusterSize n cid i - 1 :=
  clusterSize_eq n cid i ▸ degree_le_of_mem hS hC (mem_members.mpr ⟨hi, rfl⟩)

/-- The integer relabelling is a bijection between the records in `order` and `0..|order|-1`:
mapping to the new id and back is the identity (any `order`), new ids are in range and distinct
records get distinct new ids; when `order` has no repetition the other round trip is the identity too. -/
theorem id_map_bijective (order : List Nat) :
    (∀ v, v ∈ order → ∃ k, newId order v = some k ∧ k < order.length ∧ oldId order k = some v) ∧
    (∀ a b k, newId order a = some k → newId order b = some k → a = b) ∧
    (order.Nodup → ∀ k v, oldId order k = some v → newId order v = some k) :=
  ⟨fun _ hv => let ⟨k, hk⟩ := newId_isSome_of_mem hv; ⟨k, hk, newId_lt hk, oldId_newId hk⟩,
   fun _ _ _ ha hb => newId_inj ha hb,
   fun hnd _ _ h => newId_oldId hnd h⟩

/-- Bridge flags land on the right edges: the edge table has exactly one row per kept edge, in
order, and the row of edge `e` is flagged iff the relabelled `e` is one of the rows igraph returned
as bridges — whatever igraph's bridge finder is (it only has to return distinct indices). -/
theorem bridge_flags_on_right_edges (bridges : List (Nat × Nat) → List Nat) (order : List Nat)
    (es : List Edge) (hmem : ∀ e ∈ es, e.1 ∈ order ∧ e.2 ∈ order) (hnd : es.Nodup)
    (hB : ∀ g, (bridges g).Nodup) :
    edgesTable bridges order es = some (es.map fun e =>
      (e.1, e.2, decide (relabel order e ∈ bridgeRows bridges (es.map (relabel order))))) := by
  have hR : (bridgesOnly order (bridgeRows bridges (es.map (relabel order)))).Nodup :=
    (bridgeRows_nodup bridges _ (relabel_nodup hmem hnd) (hB _)).map_on fun p hp q hq =>
      back_inj hmem (bridgeRows_subset hp) (bridgeRows_subset hq)
  unfold edgesTable
  rw [igraphInput_eq order es hmem, Option.map_some, fullBridges_nodup es _ hR]
  refine congrArg some (List.map_congr_left fun e he => ?_)
  -- a bridge row mapped back is `e` iff it is the relabelled `e`
  have : (some e.1, some e.2) ∈ bridgesOnly order (bridgeRows bridges (es.map (relabel order))) ↔
      relabel order e ∈ bridgeRows bridges (es.map (relabel order)) := by
    constructor
    · intro h
      obtain ⟨p, hp, hpe⟩ := List.mem_map.mp h
      rwa [back_inj hmem (bridgeRows_subset hp) (List.mem_map_of_mem he)
        (hpe.trans (back_relabel (hmem e he)).symm)] at hp
    · exact fun h => List.mem_map.mpr ⟨_, h, back_relabel (hmem e he)⟩
  rw [decide_eq_decide.mpr this]

/-- … and the `k`-th kept edge is flagged iff igraph reported edge index `k` of the relabelled
graph (whose `k`-th edge is the relabelled `k`-th kept edge). -/
theorem bridge_flag_is_igraph_verdict (bridges : List (Nat × Nat) → List Nat) (order : List Nat)
    (es : List Edge) (hmem : ∀ e ∈ es, e.1 ∈ order ∧ e.2 ∈ order) (hnd : es.Nodup)
    (k : Nat) (hk : k < es.length) :
    relabel order es[k] ∈ bridgeRows bridges (es.map (relabel order)) ↔
      k ∈ bridges (es.map (relabel order)) :=
  mem_bridgeRows_iff_index (relabel_nodup hmem hnd) (Lemmas.Lists.getElem?_map_of_lt _ hk)

/-- What the flag means: if the bridge finder meets its specification (`BridgeSpec`: index `k` is
reported iff the endpoints of the `k`-th edge are disconnected once that edge row is removed), then
the `k`-th kept edge is flagged iff removing it disconnects its endpoints in the ORIGINAL thresholded
graph — the relabelling to `0..n-1` and back neither moves nor changes any verdict. -/
theorem bridge_flag_def (bridges : List (Nat × Nat) → List Nat) (hspec : BridgeSpec bridges)
    (order : List Nat) (es : List Edge) (hmem : ∀ e ∈ es, e.1 ∈ order ∧ e.2 ∈ order)
    (hnd : es.Nodup) (k : Nat) (hk : k < es.length) :
    relabel order es[k] ∈ bridgeRows bridges (es.map (relabel order)) ↔
      ¬ Reach (AdjL (es.eraseIdx k)) es[k].1 es[k].2 := by
  have hek := hmem es[k] (List.getElem_mem hk)
  rw [bridge_flag_is_igraph_verdict bridges order es hmem hnd k hk, hspec,
    Lemmas.Lists.getElem?_map_of_lt _ hk, List.eraseIdx_map]
  simp only [Option.some.injEq, exists_eq_left']
  exact not_congr (reach_relabel_iff order (es.eraseIdx k)
    (fun e he => hmem e (List.mem_of_mem_eraseIdx he)) hek.1 hek.2)

/-- One row per record, per kept edge and per cluster: the node table lists records `0..n-1` once
each; the edge table lists the kept edges once each, in order; the cluster table has one row per
distinct `cluster_id`, and each row is the aggregate of its own cluster. -/
theorem one_row_each (bridges : List (Nat × Nat) → List Nat) (order : List Nat) (n : Nat)
    (cid : Nat → Nat) (es : List Edge) (hmem : ∀ e ∈ es, e.1 ∈ order ∧ e.2 ∈ order)
    (hnd : es.Nodup) (hB : ∀ g, (bridges g).Nodup) :
    (nodesTable n cid es).map (·.node) = List.range n ∧
    (∃ t, edgesTable bridges order es = some t ∧ t.map (fun r => (r.1, r.2.1)) = es) ∧
    ((clustersTable (nodesTable n cid es)).map (·.cluster)).Nodup ∧
    (∀ c, c ∈ (clustersTable (nodesTable n cid es)).map (·.cluster) ↔ ∃ i, i < n ∧ cid i = c) ∧
    (∀ r ∈ clustersTable (nodesTable n cid es), r = clusterRow (nodesTable n cid es) r.cluster) := by
  refine ⟨?_, ⟨_, bridge_flags_on_right_edges bridges order es hmem hnd hB, ?_⟩, ?_, fun c => ?_,
    fun r hr => ?_⟩
  · rw [nodesTable_eq, List.map_map]
    exact List.map_id _
  · rw [List.map_map]
    exact List.map_id _
  · rw [clusters_ids]
    exact Lemmas.Lists.nodup_eraseDups _
  · rw [clusters_ids, List.mem_eraseDups, nodesTable_eq, List.map_map]
    simp [Function.comp_def]
  · obtain ⟨c, _, rfl⟩ := List.mem_map.mp hr
    rfl

/-- Every row of the node table carries the record's own cluster id, degree and centrality. -/
theorem node_row_def (n : Nat) (cid : Nat → Nat) (es : List Edge) (r : NodeRow) :
    r ∈ nodesTable n cid es ↔ r.node < n ∧ r = ⟨r.node, cid r.node, nodeDegree es r.node,
      nodeCentrality (nodeDegree es r.node) (clusterSize n cid r.node)⟩ := by
  rw [nodesTable_eq, List.mem_map]
  constructor
  · rintro ⟨i, hi, rfl⟩
    exact ⟨List.mem_range.mp hi, rfl⟩
  · rintro ⟨hlt, heq⟩
    exact ⟨r.node, List.mem_range.mpr hlt, heq.symm⟩

/-- Non-vacuity: a triangle 0-1-2 with a pendant 3 plus two isolated records (clusters 0, 4, 5)
meets every hypothesis (`Consistent`, `Simple`, distinct edges, endpoints in `order`) and yields
the expected tables: the pendant edge is the only bridge, density 8·2/(2·12) = 2/3,
centralisation (4·3 − 8)/(3·2) = 2/3. -/
example :
    let cid : Nat → Nat := fun i => if i < 4 then 0 else i
    let es : List Edge := [(0, 1), (1, 2), (0, 2), (2, 3)]
    (∀ e ∈ es, e.1 < 6 ∧ e.2 < 6 ∧ cid e.1 = cid e.2) ∧ (allNodes es).Nodup ∧ es.Nodup ∧
    (nodesTable 6 cid es).map (fun r => (r.node, r.cluster, r.degree, r.centrality.num, r.centrality.den)) =
      [(0, 0, 2, 2, 3), (1, 0, 2, 2, 3), (2, 0, 3, 3, 3), (3, 0, 1, 1, 3), (4, 4, 0, 0, 1), (5, 5, 0, 0, 1)] ∧
    edgesTable (fun _ => [3]) [3, 1, 0, 2, 5, 4] es =
      some [(0, 1, false), (1, 2, false), (0, 2, false), (2, 3, true)] ∧
    clustersTable (nodesTable 6 cid es) =
      [⟨0, 4, ⟨8, 2⟩, some ⟨16, 24⟩, some ⟨4, 6⟩⟩, ⟨4, 1, ⟨0, 2⟩, none, none⟩, ⟨5, 1, ⟨0, 2⟩, none, none⟩] := by
  decide +kernel

end SplinkVerif.C19
