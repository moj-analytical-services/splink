import SplinkVerif.Lemmas.EM
import SplinkVerif.Lemmas.ArithBridge
/-!
# C03 — EM training performs exact EM steps

Property theorems about `Model/EM.lean` at `ℝ` (instance `Lemmas.Score.instNumReal`); the driver runs the
same definitions at `Float`.
-/
namespace SplinkVerif.C03
open SplinkVerif SplinkVerif.Score SplinkVerif.EM

/-- weight of a row in the M-step: posterior match probability times pattern count -/
noncomputable def wM (θ : Params ℝ) (r : Row ℝ) : ℝ := eProb θ r * r.count
noncomputable def wU (θ : Params ℝ) (r : Row ℝ) : ℝ := (1 - eProb θ r) * r.count

/-- rows whose γ for comparison `ci` is a non-null level -/
def nonNullRows (θ : Params ℝ) (rows : List (Row ℝ)) (ci : Nat) : List (Row ℝ) :=
  rows.filter fun r => match gammaAt θ r ci with | some v => v != -1 | none => false

/-- The SQL-shaped M-step (GROUP BY γ, drop γ = −1, window-normalise) is the textbook
weighted relative frequency: `m'(c,v) = Σ_{γ_c = v} p·n / Σ_{γ_c non-null} p·n`. -/
theorem mstep_eq_reference (θ : Params ℝ) (rows : List (Row ℝ)) (ci : Nat) (v : Int)
    (hv : v ≠ -1) (hobs : ∃ r ∈ rows, gammaAt θ r ci = some v) :
    newM θ rows ci v =
      some (((rows.filter fun r => gammaAt θ r ci == some v).map (wM θ)).sum /
            ((nonNullRows θ rows ci).map (wM θ)).sum) ∧
    newU θ rows ci v =
      some (((rows.filter fun r => gammaAt θ r ci == some v).map (wU θ)).sum /
            ((nonNullRows θ rows ci).map (wU θ)).sum) := by
  have hmem := (Lemmas.EM.mem_observedValues θ rows ci v).mpr ⟨hobs, hv⟩
  exact ⟨Lemmas.EM.newM_rows θ rows ci v hmem, Lemmas.EM.newU_rows θ rows ci v hmem⟩

/-- `λ' = Σ p·n / Σ n`. -/
theorem lambda_eq_reference (θ : Params ℝ) (rows : List (Row ℝ)) :
    lambdaNew θ rows = (rows.map (wM θ)).sum / (rows.map fun r => (r.count : ℝ)).sum :=
  Lemmas.EM.lambdaNew_eq θ rows

/-- The new m values of the observed non-null levels of a comparison sum to 1 (likewise u). -/
theorem mstep_sums_to_one (θ : Params ℝ) (rows : List (Row ℝ)) (ci : Nat)
    (hm : denomM θ rows ci ≠ 0) (hu : denomU θ rows ci ≠ 0) :
    ((observedValues θ rows ci).map fun v => (newM θ rows ci v).getD 0).sum = 1 ∧
    ((observedValues θ rows ci).map fun v => (newU θ rows ci v).getD 0).sum = 1 :=
  ⟨Lemmas.EM.sum_proportions _ _ (mCount θ rows ci) _ (Lemmas.EM.newM_of_mem θ rows ci)
      (Lemmas.EM.denomM_eq θ rows ci) hm,
    Lemmas.EM.sum_proportions _ _ (uCount θ rows ci) _ (Lemmas.EM.newU_of_mem θ rows ci)
      (Lemmas.EM.denomU_eq θ rows ci) hu⟩

/-- A level whose value never occurs among the non-null rows receives no estimate. -/
theorem unobserved_gets_no_estimate (θ : Params ℝ) (rows : List (Row ℝ)) (ci : Nat) (v : Int)
    (h : ∀ r ∈ rows, gammaAt θ r ci ≠ some v) :
    newM θ rows ci v = none ∧ newU θ rows ci v = none := by
  have hn : v ∉ observedValues θ rows ci := fun hc =>
    have ⟨⟨r, hr, hg⟩, _⟩ := (Lemmas.EM.mem_observedValues θ rows ci v).mp hc
    h r hr hg
  exact ⟨Lemmas.EM.newM_of_not_mem θ rows ci v hn, Lemmas.EM.newU_of_not_mem θ rows ci v hn⟩

/-- …and `updateLevel` then stores the `LEVEL_NOT_OBSERVED` placeholder (numeric value 1e-6) unless fixed. -/
theorem unobserved_placeholder (sess : Session) (θ : Params ℝ) (rows : List (Row ℝ)) (ci : Nat)
    (l : Level ℝ) (st : LevelState) (hn : l.isNull = false)
    (hfm : st.fixM = false) (hsm : sess.fixM = false)
    (h : ∀ r ∈ rows, gammaAt θ r ci ≠ some l.cvv) :
    (updateLevel sess θ rows ci l st).1.m = 1 / 1000000 ∧ (updateLevel sess θ rows ci l st).2.mObserved = false := by
  rw [Lemmas.EM.updateLevel_eq]
  simp only [hn, hfm, hsm, (unobserved_gets_no_estimate θ rows ci l.cvv h).1, Bool.or_self,
    Bool.false_eq_true, if_false]
  exact ⟨Lemmas.EM.notObservedValue_eq, trivial⟩

/-- Parameters declared fixed — for the session or for the level — do not move; null levels never change. -/
theorem fixed_do_not_move (sess : Session) (θ : Params ℝ) (rows : List (Row ℝ)) (ci : Nat)
    (l : Level ℝ) (st : LevelState) :
    ((st.fixM = true ∨ sess.fixM = true ∨ l.isNull = true) → (updateLevel sess θ rows ci l st).1.m = l.m) ∧
    ((st.fixU = true ∨ sess.fixU = true ∨ l.isNull = true) → (updateLevel sess θ rows ci l st).1.u = l.u) ∧
    (updateLevel sess θ rows ci l st).1.cvv = l.cvv ∧ (updateLevel sess θ rows ci l st).1.tf = l.tf := by
  rw [Lemmas.EM.updateLevel_eq]
  cases hn : l.isNull
  · simp only [Bool.false_eq_true, if_false, or_false]
    refine ⟨fun h => ?_, fun h => ?_, trivial, trivial⟩
    · rw [if_pos (Bool.or_eq_true_iff.mpr h)]
    · rw [if_pos (Bool.or_eq_true_iff.mpr h)]
  · simp

theorem fixed_lambda_does_not_move (sess : Session) (θ : Params ℝ) (rows : List (Row ℝ))
    (h : sess.fixLambda = true) : (step sess θ rows).prior = θ.prior :=
  Lemmas.EM.step_prior_fixed sess θ rows h

/-- The step keeps the shape of the model (same number of comparisons and levels). -/
theorem step_shape (sess : Session) (θ : Params ℝ) (rows : List (Row ℝ))
    (hlen : θ.comps.length = θ.states.length)
    (hl : ∀ (i : Nat) (c : Comparison ℝ) (s : List LevelState), θ.comps[i]? = some c → θ.states[i]? = some s → c.length = s.length) :
    (step sess θ rows).comps.length = θ.comps.length ∧
    ∀ (i : Nat) (c c' : Comparison ℝ), θ.comps[i]? = some c → (step sess θ rows).comps[i]? = some c' → c'.length = c.length := by
  refine ⟨Lemmas.EM.length_step_comps sess θ rows hlen, fun i c c' hc hc' => ?_⟩
  simp only [EM.step] at hc'
  rw [List.getElem?_map, Option.map_eq_some_iff] at hc'
  obtain ⟨d, hd, rfl⟩ := hc'
  obtain ⟨x, y, hx, hy, rfl⟩ := Lemmas.EM.zipWith3Idx_getElem? _ _ _ i d hd
  cases hc.symm.trans hx
  have := hl i c y hc hy
  simp only [List.length_map, List.length_zip]
  omega

/-- row-wise mode: a row carrying count `k` as `k` rows with count 1 -/
def expand (rows : List (Row ℝ)) : List (Row ℝ) :=
  rows.flatMap fun r => List.replicate r.count { r with count := 1 }

/-- The fast agreement-pattern path equals the row-wise path: a row carrying count `k`
contributes exactly what `k` copies with count 1 contribute. -/
theorem pattern_path_eq_rowwise (θ : Params ℝ) (rows : List (Row ℝ)) (ci : Nat) (v : Int) :
    mCount θ (expand rows) ci v = mCount θ rows ci v ∧
    uCount θ (expand rows) ci v = uCount θ rows ci v ∧
    lambdaNew θ (expand rows) = lambdaNew θ rows := by
  have he : ∀ r : Row ℝ, eProb θ { r with count := 1 } = eProb θ r := fun _ => rfl
  unfold expand
  refine ⟨?_, ?_, ?_⟩
  · rw [Lemmas.EM.mCount_eq, Lemmas.EM.mCount_eq, Lemmas.EM.filter_expand _ _ fun _ => rfl,
      Lemmas.EM.sum_expand]
    intro r
    rw [he, Nat.cast_one, mul_one, mul_comm]
  · rw [Lemmas.EM.uCount_eq, Lemmas.EM.uCount_eq, Lemmas.EM.filter_expand _ _ fun _ => rfl,
      Lemmas.EM.sum_expand]
    intro r
    rw [he, Nat.cast_one, mul_one, mul_comm]
  · rw [Lemmas.EM.lambdaNew_eq, Lemmas.EM.lambdaNew_eq, Lemmas.EM.sum_expand, Lemmas.EM.sum_expand]
    · intro r
      rw [Nat.cast_one, mul_one]
    · intro r
      rw [he, Nat.cast_one, mul_one, mul_comm]

/-- The starting prior of a session is the model prior's odds multiplied by the Bayes
factors of the selected exact-match levels, mapped back to a probability. -/
theorem start_prior_formula (prior : ℝ) (bfs : List ℝ) :
    startPrior prior bfs =
      (prior / (1 - prior) * bfs.prod) / (1 + prior / (1 - prior) * bfs.prod) := by
  have hfold : ∀ a : ℝ, bfs.foldl (fun acc b => Num.mul b acc) a = a * bfs.prod := by
    induction bfs with
    | nil => simp
    | cons b bfs ih =>
      intro a
      rw [List.foldl_cons, ih, List.prod_cons, Lemmas.Score.num_mul]
      ring
  unfold startPrior
  simp only [hfold, Lemmas.Score.priorOdds_eq, Lemmas.Score.num_div, Lemmas.Score.num_add,
    Lemmas.Score.num_one]

/-- The starting prior of an EM session as the source computes it — `bayes_factor_to_prob` of `prob_to_bayes_factor prior`
multiplied by the Bayes factors of the levels the training rule implies (translated helpers, `Generated/Arith.lean`,
regenerated every run) — is the model's `startPrior`. -/
theorem start_prior_translated (prior : ℝ) (bfs : List ℝ) (hp : prior ≠ 1) :
    (Gen.prob_to_bayes_factor prior).bind (fun b0 => Gen.bayes_factor_to_prob (bfs.foldl (fun acc b => b * acc) b0))
      = some (EM.startPrior prior bfs) := by
  rw [Lemmas.ArithBridge.prior_factor_translated prior hp]
  show some ((bfs.foldl (fun acc b => b * acc) (priorOdds prior)) /
      (((1 : ℕ) : ℝ) + bfs.foldl (fun acc b => b * acc) (priorOdds prior))) = some (_ / ((1 : ℝ) + _))
  simp

/-- The levels chosen for a training rule: each chosen level's columns are all columns of
the rule, no column is used by two chosen levels, and indices are valid. -/
theorem levels_to_reverse_sound (levels : List (List Nat)) (ruleCols : List Nat) :
    (∀ i ∈ levelsToReverse levels ruleCols, ∃ cols, levels[i]? = some cols ∧ ∀ c ∈ cols, c ∈ ruleCols) ∧
    (levelsToReverse levels ruleCols).Nodup ∧
    (∀ i j ci cj, i ∈ levelsToReverse levels ruleCols → j ∈ levelsToReverse levels ruleCols → i ≠ j →
        levels[i]? = some ci → levels[j]? = some cj → ci ≠ [] → ∀ c ∈ ci, c ∉ cj) := by
  obtain ⟨ch, hsub, heq, hrem, hpw⟩ := Lemmas.EM.levelsToReverseAux_spec
    (sortByLenDesc ((List.range levels.length).zip levels)) ruleCols.eraseDups
  have hlev : ∀ x ∈ ch, levels[x.1]? = some x.2 := fun x hx =>
    (Lemmas.EM.mem_sortByLenDesc_zip levels x.1 x.2).mp (hsub.subset hx)
  unfold levelsToReverse
  rw [heq]
  refine ⟨?_, (hsub.map _).nodup (Lemmas.EM.nodup_fst_sortByLenDesc_zip levels), ?_⟩
  · intro i hi
    obtain ⟨x, hx, rfl⟩ := List.mem_map.mp hi
    exact ⟨x.2, hlev x hx, fun c hc => List.mem_eraseDups.mp (hrem x hx c hc)⟩
  · intro i j ci cj hi hj hij hci hcj _
    obtain ⟨x, hx, rfl⟩ := List.mem_map.mp hi
    obtain ⟨y, hy, rfl⟩ := List.mem_map.mp hj
    cases (hlev x hx).symm.trans hci
    cases (hlev y hy).symm.trans hcj
    -- disjointness is symmetric, so it does not matter which of the two was chosen first
    have : Std.Symm fun x y : Nat × List Nat => ∀ c ∈ x.2, c ∉ y.2 :=
      ⟨fun _ _ h c hc hcy => h c hcy hc⟩
    exact hpw.forall hx hy fun h => hij (congrArg Prod.fst h)

/-- A level on exactly the rule's (distinct) columns is always chosen when it is the only
exact-match level: the single-column training rule picks the exact-match level of its column. -/
theorem levels_to_reverse_single (cols : List Nat) (ruleCols : List Nat)
    (hsub : ∀ c ∈ cols, c ∈ ruleCols) :
    levelsToReverse [cols] ruleCols = [0] := by
  have hall : (cols.all fun c => ruleCols.eraseDups.contains c) = true :=
    List.all_eq_true.mpr fun c hc =>
      List.contains_iff_mem.mpr (List.mem_eraseDups.mpr (hsub c hc))
  have hs : sortByLenDesc ((List.range [cols].length).zip [cols]) = [(0, cols)] := rfl
  unfold levelsToReverse
  rw [hs]
  unfold levelsToReverseAux
  rw [if_pos hall]
  rfl

/-- Python's `statistics.median`: the middle element of the sorted list, or the mean
of the two middle elements; it does not depend on the order of the sessions. -/
theorem median_perm (xs ys : List ℝ) (h : xs.Perm ys) : median xs = median ys := by
  unfold median
  rw [Lemmas.EM.foldr_insertAsc_congr xs ys h]

theorem median_singleton (x : ℝ) : median [x] = some x := by
  simp [median, insertAsc]
theorem median_pair (x y : ℝ) : median [x, y] = some ((x + y) / 2) := by
  rcases le_total x y with h | h
  · exact Lemmas.EM.median_of_sort_pair
      (Lemmas.EM.foldr_insertAsc_eq (List.Perm.refl _) (List.pairwise_pair.mpr h))
  · rw [add_comm]
    exact Lemmas.EM.median_of_sort_pair
      (Lemmas.EM.foldr_insertAsc_eq (List.Perm.swap _ _ _) (List.pairwise_pair.mpr h))
theorem median_triple_sorted (x y z : ℝ) (h1 : x ≤ y) (h2 : y ≤ z) : median [z, x, y] = some y := by
  have hs : [z, x, y].foldr insertAsc [] = [x, y, z] :=
    Lemmas.EM.foldr_insertAsc_eq (List.perm_append_comm (l₁ := [z]) (l₂ := [x, y]))
      (by simp [h1, h2, le_trans h1 h2])
  unfold median
  rw [hs]
  simp

/-- Evaluated: the greedy choice takes the longest level that the rule's columns cover first. -/
example : levelsToReverse [[1], [2], [1, 2], [3]] [2, 1] = [2] := by decide +kernel
example : levelsToReverse [[1], [2], [3]] [2, 1, 5] = [0, 1] := by decide +kernel

end SplinkVerif.C03
