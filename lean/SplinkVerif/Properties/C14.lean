import SplinkVerif.Lemmas.BlockingAnalysis
/-!
# C14 — blocking analysis reports the numbers blocking actually produces

Property theorems about `Model/BlockingAnalysis.lean`, `Model/Blocking.lean` and the
*generated* `Gen.calculate_cartesian` (`Generated/Arith.lean`, re-translated from
`misc.py` on every run and instantiated at `ℚ` by `Lemmas.BA.instANumRat`).
-/
namespace SplinkVerif.C14
open SplinkVerif SplinkVerif.Blocking SplinkVerif.BlockingAnalysis

/-- Pre-filter count = Σ over equi-join key values of left × right block sizes = the
size of the equi-join; NULL keys never join. -/
theorem prefilter_eq_block_products (L R : List Nat) (keyL keyR : Nat → Option Nat) :
    preFilterCount L R keyL keyR =
      (joinFilter L R fun l r => (keyL l).isSome && keyL l == keyR r).length :=
  Lemmas.BA.preFilterCount_eq L R keyL keyR

/-- Every reported block is a key value present on both sides with its true sizes. -/
theorem block_counts_exact (L R : List Nat) (keyL keyR : Nat → Option Nat) (v cl cr : Nat) :
    (v, cl, cr) ∈ blockCounts L R keyL keyR ↔
      cl = (L.filter fun i => keyL i == some v).length ∧
      cr = (R.filter fun i => keyR i == some v).length ∧ 0 < cl ∧ 0 < cr := by
  open Lemmas.BA in
  rw [blockCounts_eq]
  simp only [List.mem_flatMap, groupCounts, List.mem_map]
  constructor
  · rintro ⟨_, ⟨k, hk, rfl⟩, hb⟩
    obtain ⟨rfl, rfl, hk', rfl⟩ := (mem_bcBody ..).1 hb
    exact ⟨rfl, rfl, (Lemmas.Lists.mem_keys_iff_pos ..).1 hk, (Lemmas.Lists.mem_keys_iff_pos ..).1 hk'⟩
  · rintro ⟨rfl, rfl, hl, hr⟩
    exact ⟨_, ⟨some v, (Lemmas.Lists.mem_keys_iff_pos ..).2 hl, rfl⟩, (mem_bcBody ..).2 ⟨rfl, rfl, (Lemmas.Lists.mem_keys_iff_pos ..).2 hr, rfl⟩⟩

/-- Post-filter count = number of pairs blocking would score for that rule and link type. -/
theorem postfilter_eq_blocking (lt : LinkType) (t : Table) (rule : Nat → Nat → B3)
    (hlt : lt ≠ .twoDatasetLinkOnly) (s : Nat) :
    postFilterCount lt t s rule = (block lt t [{ kind := .plain, eval := rule }]).length := by
  cases lt with
  | twoDatasetLinkOnly => exact absurd rfl hlt
  | _ => exact Lemmas.BA.postFilterCount_eq_block _ t rule s rfl rfl

/-- …also for the two-table `link_only` split, when the first table is the lower dataset. -/
theorem postfilter_eq_blocking_two (t : Table) (rule : Nat → Nat → B3) :
    postFilterCount .twoDatasetLinkOnly t (minSd t) rule =
      (block .twoDatasetLinkOnly t [{ kind := .plain, eval := rule }]).length :=
  Lemmas.BA.postFilterCount_eq_block _ t rule _ rfl rfl

/-- The marginal counts add up to the number of scored pairs, and each is the number
of emitted rows carrying that `match_key` (zero for silent rules). -/
theorem cumulative_eq_matchkey_counts (lt : LinkType) (t : Table) (rules : List Rule)
    (hne : rules ≠ []) :
    (rowCounts lt t rules).sum = (block lt t rules).length ∧
    ∀ i, i < rules.length →
      (rowCounts lt t rules)[i]? = some ((block lt t rules).filter fun row => row.1 == i).length := by
  constructor
  · -- `hne`: on `[]`, `block` runs the rule `1=1` and tags its rows `0`, which is not below `[].length`
    exact Lemmas.Lists.length_by_key (block lt t rules) (·.1) (List.range rules.length) List.nodup_range
      fun x hx => List.mem_range.mpr (Lemmas.BA.block_tag lt t rules hne x hx)
  · intro i hi
    unfold rowCounts
    simp only [List.getElem?_map, List.getElem?_range hi, Option.map_some]

/-- `cumulative_rows` is the running total and `start` the total before the rule. -/
theorem cumulative_running (lt : LinkType) (t : Table) (rules : List Rule) (i : Nat) (row : CumRow)
    (h : (cumulative lt t rules)[i]? = some row) :
    row.cumulativeRows = ((rowCounts lt t rules).take (i + 1)).sum ∧
    row.start = ((rowCounts lt t rules).take i).sum ∧
    row.rowCount = (rowCounts lt t rules)[i]?.getD 0 := by
  unfold cumulative at h
  simp only [List.getElem?_map, Option.map_eq_some_iff] at h
  obtain ⟨⟨c, tot⟩, hz, rfl⟩ := h
  obtain ⟨hc, ht⟩ := List.getElem?_zip_eq_some.mp hz
  have h1 := Lemmas.BA.runningTotals_getElem? _ 0 i tot ht
  -- the total up to rule `i` is the total before it plus its own count `c`
  have h2 : ((rowCounts lt t rules).take (i + 1)).sum = ((rowCounts lt t rules).take i).sum + c := by
    rw [List.take_add_one, hc, List.sum_append, Option.toList_some, List.sum_singleton]
  rw [Nat.zero_add] at h1
  refine ⟨h1, ?_, by rw [hc, Option.getD_some]⟩
  show tot - c = _
  omega

/-- `cartesian` (the generated `calculate_cartesian`) = number of admissible pairs, `dedupe_only`. -/
theorem cartesian_dedupe (t : Table) (hwf : Lemmas.Blk.WFKeys t) :
    Gen.calculate_cartesian [(t.m : ℚ)] "dedupe_only" = some ((admissiblePairs .dedupeOnly t : ℕ) : ℚ) := by
  rw [Lemmas.BA.cartesian_eq_dedupe, Lemmas.BA.key_pairs_rat t hwf]

/-- …`link_and_dedupe`: per-dataset counts `ns` summing to the table size. -/
theorem cartesian_link_and_dedupe (t : Table) (hwf : Lemmas.Blk.WFKeys t) (ns : List Nat)
    (hsum : ns.sum = t.m) :
    Gen.calculate_cartesian (ns.map fun (n : ℕ) => (n : ℚ)) "link_and_dedupe" =
      some ((admissiblePairs .linkAndDedupe t : ℕ) : ℚ) := by
  rw [Lemmas.BA.cartesian_eq_linkAndDedupe, Lemmas.BA.cast_sum, hsum, Lemmas.BA.admissiblePairs_linkAndDedupe,
    Lemmas.BA.key_pairs_rat t hwf]

/-- …`link_only`: `((Σn)² − Σn²)/2` = number of pairs of records from different datasets. -/
theorem cartesian_link_only (t : Table) (hwf : Lemmas.Blk.WFKeys t) (hk : 2 ≤ (Lemmas.BA.sdCounts t).length) :
    Gen.calculate_cartesian ((Lemmas.BA.sdCounts t).map fun (n : ℕ) => (n : ℚ)) "link_only" =
      some ((admissiblePairs .linkOnly t : ℕ) : ℚ) := by
  have hQ : (2 : ℚ) * (admissiblePairs .linkOnly t : ℕ) +
      ((((Lemmas.BA.sdCounts t).map fun n => n * n).sum : ℕ) : ℚ) = (t.m : ℚ) * (t.m : ℚ) := by
    exact_mod_cast Lemmas.BA.link_pairs_nat t hwf
  have hsq : (((Lemmas.BA.sdCounts t).map fun (n : ℕ) => (n : ℚ)).map fun m => m * m).sum =
      ((((Lemmas.BA.sdCounts t).map fun n => n * n).sum : ℕ) : ℚ) := by
    rw [← Lemmas.BA.cast_sum, List.map_map, List.map_map]
    exact congrArg List.sum (List.map_congr_left fun n _ => (Nat.cast_mul n n).symm)
  rw [Lemmas.BA.cartesian_eq_linkOnly _ (by rwa [List.length_map]), Lemmas.BA.cast_sum, Lemmas.BA.sdCounts_sum, hsq,
    Lemmas.BA.half_sub_eq hQ]

/-- `n_largest_blocks`: the result is sorted by block size descending, has
`min n (#blocks)` rows, consists of reported blocks, and no omitted block is larger
than a listed one. -/
theorem n_largest_sorted (n : Nat) (blocks : List (Nat × Nat × Nat)) :
    (nLargest n blocks).length = min n blocks.length ∧
    (nLargest n blocks).Pairwise (fun a b => a.2.1 * a.2.2 ≥ b.2.1 * b.2.2) ∧
    (∀ b ∈ nLargest n blocks, b ∈ blocks) ∧
    ∃ rest, (nLargest n blocks ++ rest).Perm blocks ∧
      ∀ a ∈ nLargest n blocks, ∀ b ∈ rest, a.2.1 * a.2.2 ≥ b.2.1 * b.2.2 := by
  have hp := Lemmas.BA.foldr_insertDesc_perm blocks
  obtain ⟨h1, h2, h3⟩ := Lemmas.Lists.take_sorted_perm hp (Lemmas.BA.foldr_insertDesc_sorted blocks) n
  exact ⟨h1, h2, fun b hb => hp.subset (List.mem_of_mem_take hb), h3⟩

/-- Non-vacuity: keys `[a, a, b, NULL]` joined with themselves: blocks a (2×2) and b (1×1). -/
example : preFilterCount [0, 1, 2, 3] [0, 1, 2, 3]
    (fun i => [some 7, some 7, some 9, none].getD i none)
    (fun i => [some 7, some 7, some 9, none].getD i none) = 5 := by decide +kernel

end SplinkVerif.C14
