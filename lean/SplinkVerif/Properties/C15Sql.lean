import SplinkVerif.Lemmas.AccSql
/-!
# C15 at the level of the emitted SQL

`Generated/AccSql.lean` holds the six truth-space statements `truth_space_table_from_labels_with_predictions_sqls`
emits for labels from a table with `positives_not_captured_by_blocking_rules_scored_as_zero` on (T-sql translator,
regenerated on every run: a change to an SQL template changes that file and these proofs stop checking);
`Model/AccSql.lean` runs them as one CTE pipeline (`runStmts`) on the input table `lwp_in` (match_weight rounded to the
grid, clerical_match_score, found_by_blocking_rules).  Evaluated with the SQL semantics `Rel.eval`, the pipeline returns
— up to row order — exactly the rows of `Accuracy.truthRows`, so the C15 theorems about `truthRows` hold of the rows
the SQL returns.

No hypothesis on the labelled pairs is needed: ties, duplicates and the **empty** input are covered (`sum` over no row
is NULL, but with no label there is no group, hence no row on which the NULL scalar subqueries would be looked at).
The two hypotheses on the configuration select the variant the generated statements are: `scoreNotFoundAsZero = true`
(statement 2 is the `CASE WHEN found_by_blocking_rules …`) and `totalLabels = none` (statement 5 is `select *`).
-/
namespace SplinkVerif.C15Sql
open SplinkVerif SplinkVerif.Rel
open SplinkVerif.Accuracy (Scored Cfg PosNegAdj Grouped Stats TruthRow adjScore isPos)
open SplinkVerif.Lemmas.Acc (cnt adjRow)
open SplinkVerif.Lemmas.AccSql (encIn encT encG encS encPosNeg encAdj row1 row2 cols groupedSql sqlRows)

/-! ### The encodings, written out -/

/-- A row of `lwp_in`. -/
theorem encIn_def (cfg : Cfg) (x : Scored) :
    encIn cfg x = [Val.int (cfg.bucket x.weight), Val.int x.score, Val.bool x.found] := rfl

/-- A `TruthRow` in the SQL's column order (truth_threshold, total_clerical_labels, P, N, FP, TP, FN, TN). -/
theorem encT_def (r : TruthRow) :
    encT r = [Val.int r.truthThreshold, Val.int r.total, Val.int r.p, Val.int r.n, Val.int r.fp, Val.int r.tp,
      Val.int r.fn, Val.int r.tn] := rfl

/-- The SQL result on the encoded labelled pairs. -/
theorem sqlRows_def (cfg : Cfg) (xs : List Scored) :
    sqlRows cfg xs = AccSql.truthStats (xs.map (encIn cfg)) (Val.int cfg.thresholdActual) (Val.int cfg.sentinel) :=
  rfl

/-! ### Statement by statement -/

/-- `__splink__labels_with_pos_neg` (CASE on `clerical_match_score >= thr`): one row per labelled pair … -/
theorem sql_labels_with_pos_neg (cfg : Cfg) (xs : List Scored) (db : Db) (hin : db "lwp_in" = xs.map (encIn cfg)) :
    (Gen.AccSql.labelsWithPosNeg (Val.int cfg.thresholdActual)).eval db = xs.map (row1 cfg) := by
  unfold Gen.AccSql.labelsWithPosNeg
  rw [Lemmas.Rel.eval_project, Lemmas.Rel.eval_table, hin, List.map_map]
  refine List.map_congr_left fun x _ => ?_
  simp only [Function.comp, encIn, row1, List.map_cons, List.map_nil, Expr.eval, List.getD_cons_zero,
    List.getD_cons_succ, Lemmas.Rel.cmp_ge_int, isPos]
  by_cases h : cfg.thresholdActual ≤ x.score <;> simp [h, Lemmas.Acc.ind]

/-- … whose columns (truth_threshold, found_by_blocking_rules, clerical_positive, clerical_negative) are
`Accuracy.labelsWithPosNeg`. -/
theorem sql_labels_with_pos_neg_model (cfg : Cfg) (xs : List Scored) :
    (xs.map (row1 cfg)).map (cols [3, 2, 4, 5]) = (Accuracy.labelsWithPosNeg cfg xs).map encPosNeg := by
  unfold Accuracy.labelsWithPosNeg
  rw [List.map_map, List.map_map]
  refine List.map_congr_left fun x _ => ?_
  simp only [Function.comp, cols, row1, encPosNeg, List.map_cons, List.map_nil, List.getD_cons_zero,
    List.getD_cons_succ, isPos, Lemmas.AccSql.ind_decide, Lemmas.AccSql.ind_not_decide]

/-- `__splink__labels_with_pos_neg_tt_adj` (CASE on the boolean column): one more column … -/
theorem sql_labels_with_pos_neg_tt_adj (cfg : Cfg) (xs : List Scored) (hopt : cfg.scoreNotFoundAsZero = true)
    (db : Db) (hin : db "__splink__labels_with_pos_neg" = xs.map (row1 cfg)) :
    (Gen.AccSql.labelsWithPosNegTtAdj (Val.int cfg.sentinel)).eval db = xs.map (row2 cfg) := by
  unfold Gen.AccSql.labelsWithPosNegTtAdj
  rw [Lemmas.Rel.eval_project, Lemmas.Rel.eval_table, hin, List.map_map]
  refine List.map_congr_left fun x _ => ?_
  simp only [Function.comp, row1, row2, List.map_cons, List.map_nil, Expr.eval, List.getD_cons_zero,
    List.getD_cons_succ, adjScore, hopt, if_true]
  cases x.found <;> simp

/-- … and the columns (truth_threshold_adj, clerical_positive, clerical_negative) are
`Accuracy.labelsWithPosNegTtAdj ∘ Accuracy.labelsWithPosNeg`. -/
theorem sql_labels_with_pos_neg_tt_adj_model (cfg : Cfg) (xs : List Scored) :
    (xs.map (row2 cfg)).map (cols [6, 4, 5])
      = (Accuracy.labelsWithPosNegTtAdj cfg (Accuracy.labelsWithPosNeg cfg xs)).map encAdj := by
  rw [Lemmas.Acc.adj_eq, List.map_map, List.map_map]
  rfl

/-- `__splink__labels_with_pos_neg_grouped` (GROUP BY, `count(*)`, two sums): the model's groups in `GROUP BY`'s
order … -/
theorem sql_labels_with_pos_neg_grouped (cfg : Cfg) (xs : List Scored) (db : Db)
    (hin : db "__splink__labels_with_pos_neg_tt_adj" = xs.map (row2 cfg)) :
    Gen.AccSql.labelsWithPosNegGrouped.eval db = (groupedSql (xs.map (adjRow cfg))).map encG := by
  unfold Gen.AccSql.labelsWithPosNegGrouped groupedSql
  rw [Lemmas.Rel.eval_groupBy, Lemmas.Rel.eval_table, hin,
    Lemmas.Rel.groupRows_int_key (key := adjScore cfg) (fun _ => rfl), List.map_map, List.map_map]
  refine List.map_congr_left fun k hk => ?_
  obtain ⟨x, hx, hxk⟩ := List.mem_map.mp (List.mem_eraseDups.mp hk)
  -- the group of `k`, which holds `x`
  have hG : (xs.map (adjRow cfg)).filter (fun y => y.truthThresholdAdj == k)
      = (xs.filter fun x => adjScore cfg x == k).map (adjRow cfg) := List.filter_map
  have hne : (xs.filter fun x => adjScore cfg x == k) ≠ [] :=
    List.ne_nil_of_mem (List.mem_filter.mpr ⟨hx, beq_iff_eq.mpr hxk⟩)
  rw [Function.comp, Lemmas.AccSql.groupOf, hG, List.map_cons, List.map_cons, List.map_cons,
    Lemmas.Rel.aggSum_int (e := Expr.col 4) (f := fun x => (adjRow cfg x).clericalPositive) (fun _ => rfl), if_neg hne,
    Lemmas.Rel.aggSum_int (e := Expr.col 5) (f := fun x => (adjRow cfg x).clericalNegative) (fun _ => rfl), if_neg hne,
    encG, List.length_map, List.map_map, List.map_map]
  show [_, Val.int ((List.map _ _).length : Nat), _, _] = _
  rw [List.length_map]
  rfl

/-- … which is a permutation of `Accuracy.grouped`. -/
theorem sql_grouped_perm_model (ys : List PosNegAdj) : (groupedSql ys).Perm (Accuracy.grouped ys) := by
  rw [Lemmas.Acc.grouped_eq]
  refine ((List.perm_ext_iff_of_nodup (Lemmas.Lists.nodup_eraseDups _) (Lemmas.Acc.distinct_nodup _)).mpr fun a => ?_).map _
  rw [List.mem_eraseDups, Lemmas.Acc.mem_distinct]

/-- `__splink__labels_with_pos_neg_grouped_with_stats` (two cumulative windows DESC / ASC with the default RANGE frame,
three scalar subqueries) is `Accuracy.groupedWithStats`, on every grouped table. -/
theorem sql_grouped_with_stats (gs : List Grouped) (db : Db)
    (hin : db "__splink__labels_with_pos_neg_grouped" = gs.map encG) :
    Gen.AccSql.labelsWithPosNegGroupedWithStats.eval db = (Accuracy.groupedWithStats gs).map encS := by
  have hT : (Rel.table "__splink__labels_with_pos_neg_grouped").eval db = gs.map encG := hin
  -- sum(clerical_positive) over (order by truth_threshold desc), sum(clerical_negative) over (order by truth_threshold)
  have e1 := Lemmas.Rel.windowCum_sum_map db _ (Expr.col 0) (Expr.col 2) true gs encG (·.truthThreshold)
    (·.clericalPositive) hT (fun _ => rfl) (fun _ => rfl)
  have e2 := Lemmas.Rel.windowCum_sum_map db _ (Expr.col 0) (Expr.col 3) false gs _ (·.truthThreshold)
    (·.clericalNegative) e1 (fun _ => rfl) (fun _ => rfl)
  -- the three scalar subqueries
  have e3 := Lemmas.Rel.join_globalSum_map (bw := 1) db _ _ (Expr.col 2) gs _ encG (·.clericalPositive) e2 hT fun _ => rfl
  have e4 := Lemmas.Rel.join_globalSum_map (bw := 1) db _ _ (Expr.col 3) gs _ encG (·.clericalNegative) e3 hT fun _ => rfl
  have e5 := Lemmas.Rel.join_globalSum_map (bw := 1) db _ _ (Expr.col 1) gs _ encG (·.numRecordsInRow) e4 hT fun _ => rfl
  -- sum(num_records_in_row) over (order by truth_threshold), … over (order by truth_threshold desc)
  have e6 := Lemmas.Rel.windowCum_sum_map db _ (Expr.col 0) (Expr.col 1) false gs _ (·.truthThreshold)
    (·.numRecordsInRow) e5 (fun _ => rfl) (fun _ => rfl)
  have e7 := Lemmas.Rel.windowCum_sum_map db _ (Expr.col 0) (Expr.col 1) true gs _ (·.truthThreshold)
    (·.numRecordsInRow) e6 (fun _ => rfl) (fun _ => rfl)
  unfold Gen.AccSql.labelsWithPosNegGroupedWithStats Accuracy.groupedWithStats
  rw [Lemmas.Rel.eval_project, e7, List.map_map, List.map_map]
  refine List.map_congr_left fun g _ => ?_
  -- the row as a literal list first: evaluating the columns through the nested `++` is slow
  simp only [Function.comp, encG, List.cons_append, List.nil_append]
  show [_, _, _, _, _, _, Val.int (0 - g.numRecordsInRow + _), _] = _
  rw [Int.zero_sub]
  rfl

/-- `__splink__labels_with_pos_neg_grouped_with_stats_adj` (`select *` for a labels table) is `Accuracy.statsAdj none`. -/
theorem sql_grouped_with_stats_adj (ss : List Stats) (db : Db)
    (hin : db "__splink__labels_with_pos_neg_grouped_with_stats" = ss.map encS) :
    Gen.AccSql.labelsWithPosNegGroupedWithStatsAdj.eval db = (Accuracy.statsAdj none ss).map encS :=
  hin

/-- `__splink__labels_with_pos_neg_grouped_with_truth_stats` is `Accuracy.truthStats`. -/
theorem sql_grouped_with_truth_stats (ss : List Stats) (db : Db)
    (hin : db "__splink__labels_with_pos_neg_grouped_with_stats_adj" = ss.map encS) :
    Gen.AccSql.labelsWithPosNegGroupedWithTruthStats.eval db = (Accuracy.truthStats ss).map encT := by
  unfold Gen.AccSql.labelsWithPosNegGroupedWithTruthStats Accuracy.truthStats
  rw [Lemmas.Rel.eval_project, Lemmas.Rel.eval_table, hin, List.map_map, List.map_map]
  exact List.map_congr_left fun s _ => rfl

/-- The model's tables after the grouping do not depend on the order of the groups. -/
theorem grouped_with_stats_order_irrelevant {gs gs' : List Grouped} (p : gs.Perm gs') :
    (Accuracy.groupedWithStats gs).Perm (Accuracy.groupedWithStats gs') := by
  -- the windows and the scalar subqueries are sums over sublists, the same up to order
  have h1 : ∀ (col : Grouped → Int) (g : Grouped),
      Accuracy.windowDesc gs col g = Accuracy.windowDesc gs' col g :=
    fun col g => Lemmas.Lists.sum_perm ((p.filter _).map _)
  have h2 : ∀ (col : Grouped → Int) (g : Grouped),
      Accuracy.windowAsc gs col g = Accuracy.windowAsc gs' col g :=
    fun col g => Lemmas.Lists.sum_perm ((p.filter _).map _)
  have h3 : ∀ (col : Grouped → Int), (gs.map col).sum = (gs'.map col).sum :=
    fun col => Lemmas.Lists.sum_perm (p.map _)
  unfold Accuracy.groupedWithStats
  refine (p.map _).trans (List.Perm.of_eq ?_)
  apply List.map_congr_left
  intro g _
  rw [h1, h1, h2, h2, h3 (·.clericalPositive), h3 (·.clericalNegative), h3 (·.numRecordsInRow)]

/-! ### Refinement -/

/-- The six statements in sequence.  Only the first three depend on the input: whatever tables `t₁`, `t₂` the first two
bind, if the third then returns the encoded groups `gs`, the result is the model's last three tables on `gs`. -/
theorem sql_pipeline (thr sentinel : Val) (lwp t₁ t₂ : List Row) (gs : List Grouped)
    (h₁ : ∀ db : Db, db "lwp_in" = lwp → (Gen.AccSql.labelsWithPosNeg thr).eval db = t₁)
    (h₂ : ∀ db : Db, db "__splink__labels_with_pos_neg" = t₁ → (Gen.AccSql.labelsWithPosNegTtAdj sentinel).eval db = t₂)
    (h₃ : ∀ db : Db, db "__splink__labels_with_pos_neg_tt_adj" = t₂ →
      Gen.AccSql.labelsWithPosNegGrouped.eval db = gs.map encG) :
    AccSql.truthStats lwp thr sentinel
      = (Accuracy.truthStats (Accuracy.statsAdj none (Accuracy.groupedWithStats gs))).map encT :=
  (Lemmas.Rel.runStmts_meets (Gen.AccSql.stmts thr sentinel)
    [(· = t₁), (· = t₂), (· = gs.map encG), (· = (Accuracy.groupedWithStats gs).map encS),
     (· = (Accuracy.statsAdj none (Accuracy.groupedWithStats gs)).map encS), (· = _)]
    [("lwp_in", (· = lwp))] (Db.set (fun _ => []) "lwp_in" lwp) (by simp [Gen.AccSql.stmts])
    ⟨Lemmas.Rel.set_same _ _ _, trivial⟩
    ⟨fun db h => h₁ db h.1, fun db h => h₂ db h.1, fun db h => h₃ db h.1,
     fun db h => sql_grouped_with_stats gs db h.1, fun db h => sql_grouped_with_stats_adj _ db h.1,
     fun db h => sql_grouped_with_truth_stats _ db h.1, trivial⟩).1

/-- **Exact form**: row for row, the SQL result is the model's pipeline run on the grouped table in the order
`GROUP BY` produces it (`groupedSql`: first occurrences; the model's `distinct` keeps last occurrences — this is the
only difference, and the reason the refinement is up to a permutation). -/
theorem sql_truth_rows_eq (cfg : Cfg) (xs : List Scored) (hopt : cfg.scoreNotFoundAsZero = true) :
    sqlRows cfg xs = (Accuracy.truthStats (Accuracy.statsAdj none (Accuracy.groupedWithStats
      (groupedSql (xs.map (adjRow cfg)))))).map encT :=
  sql_pipeline _ _ _ _ _ _ (sql_labels_with_pos_neg cfg xs) (sql_labels_with_pos_neg_tt_adj cfg xs hopt)
    (sql_labels_with_pos_neg_grouped cfg xs)

/-- **Refinement.**  For every list of labelled pairs (any length, ties, duplicates, empty) and every configuration of
the labels-table / not-found-option variant (any `threshold_actual`, any bucketing, any sentinel) the SQL pipeline
returns a permutation of the rows of `Accuracy.truthRows`, in the column order
(truth_threshold, total_clerical_labels, P, N, FP, TP, FN, TN). -/
theorem sql_truth_rows_perm_model (cfg : Cfg) (xs : List Scored) (hopt : cfg.scoreNotFoundAsZero = true)
    (htot : cfg.totalLabels = none) :
    (AccSql.truthStats (xs.map fun x => [Val.int (cfg.bucket x.weight), Val.int x.score, Val.bool x.found])
        (Val.int cfg.thresholdActual) (Val.int cfg.sentinel)).Perm
      ((Accuracy.truthRows cfg xs).map fun r =>
        [Val.int r.truthThreshold, Val.int r.total, Val.int r.p, Val.int r.n, Val.int r.fp, Val.int r.tp,
         Val.int r.fn, Val.int r.tn]) := by
  show (sqlRows cfg xs).Perm ((Accuracy.truthRows cfg xs).map encT)
  rw [sql_truth_rows_eq cfg xs hopt, Accuracy.truthRows, htot, Lemmas.Acc.adj_eq]
  exact ((grouped_with_stats_order_irrelevant (sql_grouped_perm_model _)).map _).map _

/-- Row order of the registered input table does not matter (up to the order of the result). -/
theorem sql_input_order_irrelevant (cfg : Cfg) (xs : List Scored) (hopt : cfg.scoreNotFoundAsZero = true)
    (htot : cfg.totalLabels = none) (lwp : List Row) (hl : lwp.Perm (xs.map (encIn cfg))) :
    (AccSql.truthStats lwp (Val.int cfg.thresholdActual) (Val.int cfg.sentinel)).Perm
      ((Accuracy.truthRows cfg xs).map encT) := by
  obtain ⟨xs', p', rfl⟩ := Lemmas.Lists.perm_map_exists (encIn cfg) lwp xs hl
  exact (sql_truth_rows_perm_model cfg xs' hopt htot).trans ((Lemmas.AccSql.truthRows_perm cfg p').map _)

/-- A row is returned by the SQL iff it is the encoding of a row of the model. -/
theorem sql_mem_iff (cfg : Cfg) (xs : List Scored) (hopt : cfg.scoreNotFoundAsZero = true)
    (htot : cfg.totalLabels = none) (row : Row) :
    row ∈ sqlRows cfg xs ↔ ∃ r ∈ Accuracy.truthRows cfg xs, row = encT r := by
  have p : (sqlRows cfg xs).Perm ((Accuracy.truthRows cfg xs).map encT) := sql_truth_rows_perm_model cfg xs hopt htot
  rw [p.mem_iff, List.mem_map]
  exact ⟨fun ⟨r, hr, e⟩ => ⟨r, hr, e.symm⟩, fun ⟨r, hr, e⟩ => ⟨r, hr, e.symm⟩⟩

/-- No label, no row (whatever the parameters): the NULL that `sum` returns over no row never reaches the result. -/
theorem sql_no_labels_no_rows (thr sentinel : Val) : AccSql.truthStats [] thr sentinel = [] :=
  sql_pipeline thr sentinel [] [] [] [] (fun _ => Lemmas.Rel.project_nil) (fun _ => Lemmas.Rel.project_nil)
    (fun _ => Lemmas.Rel.groupBy_nil)

/-! ### The C15 theorems for the rows the SQL returns -/

/-- **Conservation.**  Every row the SQL returns is eight integers (no NULL) with `TP + FN = P`, `TN + FP = N`,
`P + N = total_clerical_labels`. -/
theorem sql_conservation (cfg : Cfg) (xs : List Scored) (hopt : cfg.scoreNotFoundAsZero = true)
    (htot : cfg.totalLabels = none) :
    ∀ row ∈ sqlRows cfg xs, ∃ t total p n fp tp fn tn : Int,
      row = [Val.int t, Val.int total, Val.int p, Val.int n, Val.int fp, Val.int tp, Val.int fn, Val.int tn] ∧
      tp + fn = p ∧ tn + fp = n ∧ p + n = total := by
  intro row hrow
  obtain ⟨r, hr, rfl⟩ := (sql_mem_iff cfg xs hopt htot row).mp hrow
  exact ⟨r.truthThreshold, r.total, r.p, r.n, r.fp, r.tp, r.fn, r.tn, rfl,
    Lemmas.Acc.conservation_rows cfg xs hr⟩

/-- **Recount.**  Every row the SQL returns has, at its threshold `t` (the adjusted score of some labelled pair):
TP = the number of labelled pairs with `clerical_match_score ≥ threshold_actual` counted at an adjusted score `≥ t`,
FP = the clerical negatives counted at `≥ t`, FN / TN = the clerical positives / negatives counted below `t`,
P / N = all clerical positives / negatives, total = the number of labelled pairs. -/
theorem sql_recount (cfg : Cfg) (xs : List Scored) (hopt : cfg.scoreNotFoundAsZero = true)
    (htot : cfg.totalLabels = none) :
    ∀ row ∈ sqlRows cfg xs, ∃ t : Int,
      (∃ x ∈ xs, adjScore cfg x = t) ∧
      row = [Val.int t, Val.int (xs.length : Int),
        Val.int (cnt xs (fun x => isPos cfg x)),
        Val.int (cnt xs (fun x => !isPos cfg x)),
        Val.int (cnt xs (fun x => !isPos cfg x && decide (adjScore cfg x ≥ t))),
        Val.int (cnt xs (fun x => isPos cfg x && decide (adjScore cfg x ≥ t))),
        Val.int (cnt xs (fun x => isPos cfg x && decide (adjScore cfg x < t))),
        Val.int (cnt xs (fun x => !isPos cfg x && decide (adjScore cfg x < t)))] := by
  intro row hrow
  obtain ⟨r, hr, rfl⟩ := (sql_mem_iff cfg xs hopt htot row).mp hrow
  obtain ⟨t, ht, rfl⟩ := Lemmas.Acc.mem_truthRows cfg xs hr
  refine ⟨t, ht, ?_⟩
  unfold cnt
  simp only [Lemmas.Acc.countP_eq_S]
  rw [encT, Lemmas.Acc.recountRow, Lemmas.Acc.ghosts, htot, Int.add_zero, Int.add_zero, Int.add_zero]

/-- **Not found = predicted negative.**  In every returned row above the sentinel, TP and FP count only pairs the
blocking rules found. -/
theorem sql_not_found_predicted_negative (cfg : Cfg) (xs : List Scored) (hopt : cfg.scoreNotFoundAsZero = true)
    (htot : cfg.totalLabels = none) :
    ∀ r : TruthRow, encT r ∈ sqlRows cfg xs → cfg.sentinel < r.truthThreshold →
      r.tp = cnt xs (fun x => isPos cfg x && (x.found && decide (cfg.bucket x.weight ≥ r.truthThreshold))) ∧
      r.fp = cnt xs (fun x => !isPos cfg x && (x.found && decide (cfg.bucket x.weight ≥ r.truthThreshold))) := by
  intro r hrow hs
  obtain ⟨h1, h2, _⟩ := Lemmas.Acc.not_found_rows cfg xs hopt (Lemmas.AccSql.mem_of_encT_mem (sql_truth_rows_perm_model cfg xs hopt htot) hrow) hs
  exact ⟨h1, h2⟩

/-- **Monotonicity** between any two returned rows. -/
theorem sql_monotone (cfg : Cfg) (xs : List Scored) (hopt : cfg.scoreNotFoundAsZero = true)
    (htot : cfg.totalLabels = none) (r₁ r₂ : TruthRow) (h₁ : encT r₁ ∈ sqlRows cfg xs)
    (h₂ : encT r₂ ∈ sqlRows cfg xs) (hle : r₁.truthThreshold ≤ r₂.truthThreshold) :
    r₂.tp ≤ r₁.tp ∧ r₂.fp ≤ r₁.fp ∧ r₁.tn ≤ r₂.tn ∧ r₁.fn ≤ r₂.fn :=
  have p := sql_truth_rows_perm_model cfg xs hopt htot
  Lemmas.Acc.monotone_rows cfg xs (Lemmas.AccSql.mem_of_encT_mem p h₁) (Lemmas.AccSql.mem_of_encT_mem p h₂) hle

/-- **One row per score.**  The `truth_threshold` column of the SQL result has no duplicate and holds exactly the
adjusted scores of the labelled pairs (the sentinel included — the final `where truth_threshold >= -998` is a later
statement). -/
theorem sql_thresholds_exact (cfg : Cfg) (xs : List Scored) (hopt : cfg.scoreNotFoundAsZero = true)
    (htot : cfg.totalLabels = none) :
    ((sqlRows cfg xs).map fun row => row.getD 0 Val.null).Nodup ∧
    ∀ t : Int, Val.int t ∈ ((sqlRows cfg xs).map fun row => row.getD 0 Val.null) ↔
      ∃ x ∈ xs, adjScore cfg x = t := by
  -- the `truth_threshold` column is a permutation of the model's thresholds
  have p : ((sqlRows cfg xs).map fun row => row.getD 0 Val.null).Perm
      ((Accuracy.distinct (xs.map (adjScore cfg))).map Val.int) := by
    refine ((sql_truth_rows_perm_model cfg xs hopt htot).map _).trans (List.Perm.of_eq ?_)
    rw [← Lemmas.Acc.thresholds_eq, List.map_map, List.map_map]
    rfl
  refine ⟨p.symm.nodup ((Lemmas.Acc.distinct_nodup _).map fun a b h => Val.int.inj h), fun t => ?_⟩
  rw [p.mem_iff, List.mem_map]
  constructor
  · rintro ⟨k, hk, hkt⟩
    cases hkt
    exact List.mem_map.mp ((Lemmas.Acc.mem_distinct _ _).mp hk)
  · rintro ⟨x, hx, rfl⟩
    exact ⟨_, (Lemmas.Acc.mem_distinct _ _).mpr (List.mem_map_of_mem hx), rfl⟩

/-! ### Non-vacuity (keys are small integers; weight bucket = identity; sentinel −999) -/

private def cfgT : Cfg :=
  { thresholdActual := 5, bucket := id, scoreNotFoundAsZero := true, sentinel := -999, cutoff := -998, totalLabels := none }

/-- The five labels of `C15`'s example through the SQL pipeline: two tied at weight 3 (one positive, one negative), a
positive not found by blocking (→ −999), a negative at −2, a positive at 7.  Columns
(truth_threshold, total, P, N, FP, TP, FN, TN). -/
example :
    AccSql.truthStats
      ([⟨10, 3, 0, true⟩, ⟨0, 3, 0, true⟩, ⟨10, 4, 0, false⟩, ⟨2, -2, 0, true⟩, ⟨5, 7, 0, true⟩].map (encIn cfgT))
      (Val.int 5) (Val.int (-999)) =
      [ [Val.int 3, Val.int 5, Val.int 3, Val.int 2, Val.int 1, Val.int 2, Val.int 1, Val.int 1],
        [Val.int (-999), Val.int 5, Val.int 3, Val.int 2, Val.int 2, Val.int 3, Val.int 0, Val.int 0],
        [Val.int (-2), Val.int 5, Val.int 3, Val.int 2, Val.int 2, Val.int 2, Val.int 1, Val.int 0],
        [Val.int 7, Val.int 5, Val.int 3, Val.int 2, Val.int 0, Val.int 1, Val.int 2, Val.int 2] ] := by
  decide +kernel

/-- The permutation is needed: with the tie split (weights 3, −2, 3) `GROUP BY` returns the groups in the order 3, −2
(first occurrences) … -/
example :
    AccSql.truthStats ([⟨10, 3, 0, true⟩, ⟨2, -2, 0, true⟩, ⟨0, 3, 0, true⟩].map (encIn cfgT))
      (Val.int 5) (Val.int (-999)) =
      [ [Val.int 3, Val.int 3, Val.int 1, Val.int 2, Val.int 1, Val.int 1, Val.int 0, Val.int 1],
        [Val.int (-2), Val.int 3, Val.int 1, Val.int 2, Val.int 2, Val.int 1, Val.int 0, Val.int 0] ] := by
  decide +kernel

/-- … and the model in the order −2, 3 (last occurrences). -/
example :
    (Accuracy.truthRows cfgT [⟨10, 3, 0, true⟩, ⟨2, -2, 0, true⟩, ⟨0, 3, 0, true⟩]).map encT =
      [ [Val.int (-2), Val.int 3, Val.int 1, Val.int 2, Val.int 2, Val.int 1, Val.int 0, Val.int 0],
        [Val.int 3, Val.int 3, Val.int 1, Val.int 2, Val.int 1, Val.int 1, Val.int 0, Val.int 1] ] := by
  decide +kernel

/-- The scalar subqueries alone do return NULL on the empty grouped table (`sum` over no row) — harmless, since the
cross join then has no left row. -/
example :
    (Rel.groupBy [] [Agg.sum (Expr.col 2)] (Rel.table "__splink__labels_with_pos_neg_grouped")).eval (fun _ => [])
      = [[Val.null]] := by
  decide +kernel

end SplinkVerif.C15Sql
