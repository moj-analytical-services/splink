import SplinkVerif.Lemmas.Metrics
/-!
# C16 (metrics) — the reference string metrics of `Model/Levels.lean` are what they claim to be

`Model/Levels.lean` evaluates the library's string-comparison levels against the SQL engines with
executable reference metrics.  Here: the quadratic Wagner–Fischer `lev` the driver runs IS the textbook
Levenshtein recursion `levSpec` on all strings (no length bound), `levSpec` is a metric with the usual
bounds, and the elementary laws of `commonPrefix`, `jaccardSim`, `jaroSim`, `jaroWinklerSim`.
-/
namespace SplinkVerif.C16M
open SplinkVerif SplinkVerif.Levels SplinkVerif.Metrics

/-! ## Levenshtein: implementation = specification -/

/-- The Wagner–Fischer computation equals the textbook recursion, for all strings. -/
theorem lev_eq_levSpec (a b : List Char) : lev a b = levSpec a b := by
  unfold lev
  rw [levRow_eq_sufRow, sufRow_headD]

/-- Row invariant: entry `k` of the Wagner–Fischer row of `a` against `b` is the distance of `a` to the
`k`-th suffix of `b`. -/
theorem levRow_eq_range (a b : List Char) :
    levRow a b = (List.range (b.length + 1)).map (fun k => levSpec a (b.drop k)) := by
  rw [levRow_eq_sufRow, sufRow_eq_range]

/-! ## Levenshtein: metric laws -/

/-- A string is at distance 0 from itself. -/
theorem lev_self (a : List Char) : lev a a = 0 := by
  rw [lev_eq_levSpec]
  exact levSpec_self a

/-- Identity of indiscernibles: distance 0 exactly for equal strings. -/
theorem lev_eq_zero_iff (a b : List Char) : lev a b = 0 ↔ a = b := by
  rw [lev_eq_levSpec]
  exact levSpec_eq_zero_iff a b

/-- Symmetry: a distance-threshold level gives the same answer whichever record of the pair is on the left. -/
theorem lev_symm (a b : List Char) : lev a b = lev b a := by
  rw [lev_eq_levSpec, lev_eq_levSpec]
  exact levSpec_symm a b

/-- Triangle inequality: two strings within `j` and `k` edits of a third are within `j + k` edits of each other. -/
theorem lev_triangle (a b c : List Char) : lev a c ≤ lev a b + lev b c := by
  rw [lev_eq_levSpec, lev_eq_levSpec, lev_eq_levSpec]
  exact levSpec_triangle a b c

/-- At most the length of the longer string. -/
theorem lev_le_max_len (a b : List Char) : lev a b ≤ max a.length b.length := by
  rw [lev_eq_levSpec]
  exact levSpec_le_max_len a b

/-- At least the difference of the lengths (both truncated differences). -/
theorem lev_ge_len_diff (a b : List Char) :
    a.length - b.length ≤ lev a b ∧ b.length - a.length ≤ lev a b := by
  rw [lev_eq_levSpec]
  exact levSpec_ge_len_diff a b

/-! ## Levenshtein: extension laws -/

/-- Equal heads cost nothing. -/
theorem lev_cons_cons_le (x : Char) (a b : List Char) : lev (x :: a) (x :: b) = lev a b := by
  rw [lev_eq_levSpec, lev_eq_levSpec]
  exact levSpec_cons_cons_same x a b

/-- Appending `c` to the right string moves the distance up by at most `|c|`. -/
theorem lev_append_right_le (a b c : List Char) : lev a (b ++ c) ≤ lev a b + c.length := by
  rw [lev_eq_levSpec, lev_eq_levSpec]
  exact levSpec_append_right_le a b c

/-- One more character on the right string moves the distance by at most one, in either direction. -/
theorem lev_cons_right_lipschitz (y : Char) (a b : List Char) :
    lev a (y :: b) ≤ lev a b + 1 ∧ lev a b ≤ lev a (y :: b) + 1 := by
  rw [lev_eq_levSpec, lev_eq_levSpec]
  exact ⟨levSpec_cons_right_le y a b, levSpec_le_cons_right y a b⟩

/-! ## Common prefix (the Winkler boost) -/

/-- The shared prefix, and with it the Winkler boost, does not depend on the order of the two strings. -/
theorem commonPrefix_comm (a b : List Char) : commonPrefix a b = commonPrefix b a := by
  fun_induction commonPrefix a b with
  | case1 a y b ih => rw [commonPrefix, if_pos rfl, ih]
  | case2 x a y b h => rw [commonPrefix, if_neg (Ne.symm h)]
  | case3 a b h => exact (commonPrefix.eq_2 b a fun _ _ _ _ hb ha => h _ _ _ _ ha hb).symm

/-- At most the length of the shorter string. -/
theorem commonPrefix_le_min_len (a b : List Char) : commonPrefix a b ≤ min a.length b.length := by
  fun_induction commonPrefix a b with
  | case1 a y b ih =>
    simp only [List.length_cons]
    omega
  | case2 x a y b h => omega
  | case3 a b h => omega

/-- A string shares all of itself with itself. -/
theorem commonPrefix_self (a : List Char) : commonPrefix a a = a.length := by
  induction a with
  | nil => rfl
  | cons x a ih => rw [commonPrefix, if_pos rfl, ih, List.length_cons]

/-- The first `commonPrefix a b` characters of the two strings coincide. -/
theorem commonPrefix_take (a b : List Char) :
    a.take (commonPrefix a b) = b.take (commonPrefix a b) := by
  fun_induction commonPrefix a b with
  | case1 a y b ih => rw [List.take_succ_cons, List.take_succ_cons, ih]
  | case2 x a y b h => rfl
  | case3 a b h => rfl

/-- … and it is the longest prefix they share. -/
theorem commonPrefix_maximal (a b : List Char) (k : Nat) (hk : k ≤ min a.length b.length)
    (h : a.take k = b.take k) : k ≤ commonPrefix a b := by
  induction a generalizing b k with
  | nil =>
    simp at hk
    omega
  | cons x a ih =>
    cases b with
    | nil =>
      simp at hk
      omega
    | cons y b =>
      cases k with
      | zero => omega
      | succ k =>
        simp only [List.take_succ_cons, List.cons.injEq] at h
        obtain ⟨rfl, h⟩ := h
        simp only [List.length_cons] at hk
        have := ih b k (by omega) h
        simp only [commonPrefix, if_true]
        omega

/-! ## Jaccard on character sets -/

/-- Symmetric (including the undefined case). -/
theorem jaccardSim_symm (a b : List Char) : jaccardSim a b = jaccardSim b a := by
  rw [jaccardSim_eq, jaccardSim_eq,
    interLen_comm a.eraseDups b.eraseDups (Lemmas.Lists.nodup_eraseDups a) (Lemmas.Lists.nodup_eraseDups b),
    Nat.add_comm a.eraseDups.length]
  exact if_congr or_comm rfl rfl

/-- When defined, a similarity in `[0, 1]`. -/
theorem jaccardSim_range (a b : List Char) (q : Rat) (h : jaccardSim a b = some q) : 0 ≤ q ∧ q ≤ 1 := by
  rw [jaccardSim_eq] at h
  split at h
  · cases h
  · injection h with h
    subst h
    have h1 := interLen_le_left a.eraseDups b.eraseDups
    have h2 := interLen_le_right a.eraseDups b.eraseDups (Lemmas.Lists.nodup_eraseDups a) (Lemmas.Lists.nodup_eraseDups b)
    exact natCast_div_mem (by omega)

/-- A non-empty string has similarity 1 with itself. -/
theorem jaccardSim_self (a : List Char) (h : a ≠ []) : jaccardSim a a = some 1 := by
  have hlen : (a.eraseDups.length : Rat) ≠ 0 := by
    exact_mod_cast (List.length_pos_iff.2 (mt (Lemmas.Lists.eraseDups_eq_nil_iff a).1 h)).ne'
  rw [jaccardSim_eq, if_neg (by simpa using h), interLen_self, Nat.add_sub_cancel, div_self hlen]

/-- Undefined (DuckDB raises) exactly when one of the strings is empty. -/
theorem jaccardSim_eq_none_iff (a b : List Char) : jaccardSim a b = none ↔ a = [] ∨ b = [] := by
  rw [jaccardSim_eq]
  split
  · exact iff_of_true rfl ‹_›
  · exact iff_of_false nofun ‹_›

/-! ## Jaro and Jaro–Winkler -/

/-- The imperative Jaro similarity takes values in `[0, 1]` on all strings. -/
theorem jaroSim_range (a b : List Char) : 0 ≤ jaroSim a b ∧ jaroSim a b ≤ 1 := by
  rw [jaroSim_eq]
  split
  · norm_num
  split
  · norm_num
  split
  · norm_num
  · exact jaroValue_range _ _ _ (jaroMatch_counted a b)

/-- Equal strings (empty included) have Jaro similarity exactly 1. -/
theorem jaroSim_self (a : List Char) : jaroSim a a = 1 := by
  rw [jaroSim_eq]
  split
  · rfl
  rename_i hne
  have hn : a.length ≠ 0 := by simpa using hne
  have hm := jaroMatch_self a
  rw [if_neg (by simpa using hne), if_neg (by simpa [hm.1] using hn)]
  exact jaroValue_self a.toArray _ hn hm

/-- Equal strings have Jaro–Winkler similarity exactly 1: an exact match passes every threshold `≤ 1`. -/
theorem jaroWinklerSim_self (a : List Char) : jaroWinklerSim a a = 1 := by
  have h := jaroWinklerSim_mem a a (jaroSim_self a).le
  rw [jaroSim_self] at h
  exact le_antisymm h.2 h.1

/-- The Winkler boost never lowers the similarity (the hypotheses are those of the property's wording; they hold
for all strings by `jaroSim_range`). -/
theorem jaroWinklerSim_ge_jaro (a b : List Char) (_h0 : 0 ≤ jaroSim a b) (h1 : jaroSim a b ≤ 1) :
    jaroSim a b ≤ jaroWinklerSim a b :=
  (jaroWinklerSim_mem a b h1).1

/-- The same on all strings, the range being a theorem. -/
theorem jaroWinklerSim_ge_jaro' (a b : List Char) : jaroSim a b ≤ jaroWinklerSim a b :=
  jaroWinklerSim_ge_jaro a b (jaroSim_range a b).1 (jaroSim_range a b).2

/-- Jaro–Winkler takes values in `[0, 1]` on all strings. -/
theorem jaroWinklerSim_range (a b : List Char) : 0 ≤ jaroWinklerSim a b ∧ jaroWinklerSim a b ≤ 1 := by
  have h := jaroSim_range a b
  have hw := jaroWinklerSim_mem a b h.2
  exact ⟨le_trans h.1 hw.1, hw.2⟩

/-- At or below the boost threshold `7/10`, Jaro–Winkler is Jaro. -/
theorem jaroWinklerSim_eq_jaro_of_le (a b : List Char) (h : jaroSim a b ≤ 7 / 10) :
    jaroWinklerSim a b = jaroSim a b := by
  unfold jaroWinklerSim
  simp only
  rw [if_neg (not_lt.2 h)]

/-! ## Non-vacuity: the definitions compute the textbook values -/

example : lev ['k','i','t','t','e','n'] ['s','i','t','t','i','n','g'] = 3 := by decide +kernel
/-- `levSpec` is defined by well-founded recursion (no kernel evaluation): evaluated through the theorem. -/
example : levSpec ['k','i','t','t','e','n'] ['s','i','t','t','i','n','g'] = 3 := by
  rw [← lev_eq_levSpec]
  decide +kernel
example : lev ['f','l','a','w'] ['l','a','w','n'] = 2 := by decide +kernel
example : lev [] ['a','b','c'] = 3 := by decide +kernel
example : lev ['c','a'] ['a','b','c'] = 3 := by decide +kernel
example : damerau ['c','a'] ['a','b','c'] = 2 := by decide +kernel
example : commonPrefix ['m','a','r','t','h','a'] ['m','a','r','h','t','a'] = 3 := by decide +kernel
example : jaccardSim ['a','b','c','a'] ['b','c','d'] = some (1 / 2) := by decide +kernel
example : jaccardSim [] ['b'] = none := by decide +kernel
example : jaroSim ['m','a','r','t','h','a'] ['m','a','r','h','t','a'] = 17 / 18 := by decide +kernel
example : jaroWinklerSim ['m','a','r','t','h','a'] ['m','a','r','h','t','a'] = 173 / 180 := by decide +kernel
example : jaroSim ['a'] ['b'] = 0 := by decide +kernel

end SplinkVerif.C16M
