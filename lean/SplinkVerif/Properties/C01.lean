import SplinkVerif.Lemmas.Blocking
/-!
# C01 — blocking yields exactly the rule-satisfying pairs, each once, attributed to the first rule

Property theorems about `Model/Blocking.lean`.  They hold for every table
(any number of records, any key/source-dataset assignment with distinct keys),
every link type, every list of rules of any length, each rule *any* function
`Nat → Nat → B3` (so NULL outcomes, AND/OR/NOT, asymmetric rules are all
covered), and any mix of plain, salted and exploding rules.
-/
namespace SplinkVerif.C01
open SplinkVerif SplinkVerif.Blocking

/-- Composite ids identify records:
`∀ i j, i < t.m → j < t.m → t.key i = t.key j → i = j`
(defined in `Lemmas/Blocking.lean`). -/
abbrev WFKeys := @Lemmas.Blk.WFKeys

/-- Salting is well formed: at least one partition and every record falls in one:
`∀ r ∈ rules, ∀ n, r.kind = .salted n → 0 < n ∧ ∀ i, i < t.m → t.part i n < n`. -/
abbrev SaltOK := @Lemmas.Blk.SaltOK

/-- Rule `i` evaluates to TRUE on the ordered pair `(l, r)`:
`∃ rule, rules[i]? = some rule ∧ B3.isTrue (rule.eval l r) = true`. -/
abbrev holds := @Lemmas.Blk.holds

/-- The link types that self-join the concatenated table: `lt ≠ .twoDatasetLinkOnly`. -/
abbrev SelfJoin := @Lemmas.Blk.SelfJoin

/-- Exactness and first-rule attribution: a row `(i, l, r)` is emitted iff the
ordered pair is admissible under the link type, rule `i` is TRUE on it, and no
earlier rule is TRUE on it (FALSE and NULL both count as "not TRUE"). -/
theorem block_exact (lt : LinkType) (t : Table) (rules : List Rule)
    (hlt : SelfJoin lt) (hne : rules ≠ []) (hsalt : SaltOK t rules) (i l r : Nat) :
    (i, l, r) ∈ block lt t rules ↔
      l < t.m ∧ r < t.m ∧ whereCond lt t l r = true ∧
      holds rules i l r ∧ ∀ j, j < i → ¬ holds rules j l r :=
  Lemmas.Blk.mem_block lt t rules hlt hne hsalt i l r

/-- Uniqueness: no ordered pair is emitted twice (by one rule, by two rules, or
by two salting partitions). -/
theorem block_nodup (lt : LinkType) (t : Table) (rules : List Rule)
    (hlt : SelfJoin lt) (hsalt : SaltOK t rules) :
    ((block lt t rules).map fun row => (row.2.1, row.2.2)).Nodup :=
  Lemmas.Blk.nodup_block_pairs lt t rules

/-- …and never in both orientations, nor a record with itself. -/
theorem block_one_orientation (lt : LinkType) (t : Table) (rules : List Rule)
    (hlt : SelfJoin lt) (i j l r : Nat)
    (h : (i, l, r) ∈ block lt t rules) : (j, r, l) ∉ block lt t rules ∧ l ≠ r := by
  have key : ∀ {i l r}, (i, l, r) ∈ block lt t rules → t.key l < t.key r := fun h =>
    ((Lemmas.Blk.whereCond_iff hlt t _ _).1 (Lemmas.Blk.mem_block_sound h).2.2).1
  have h1 := key h
  exact ⟨fun h' => Nat.lt_asymm h1 (key h'), fun e => Nat.lt_irrefl _ (e ▸ h1)⟩

/-- With no rules every admissible pair is produced (exactly once, by `block_nodup`). -/
theorem block_empty_rules (lt : LinkType) (t : Table) (hlt : SelfJoin lt) (i l r : Nat) :
    (i, l, r) ∈ block lt t [] ↔ i = 0 ∧ l < t.m ∧ r < t.m ∧ whereCond lt t l r = true :=
  Lemmas.Blk.mem_block_nil lt t hlt i l r

/-- Completeness over unordered pairs (uses `WFKeys`): two distinct records that
are admissible as a pair (different datasets for `link_only`) and satisfy some
rule in *both* orientations are emitted in one orientation; if they satisfy no
rule in either orientation they are not emitted.  For rules symmetric in `l`
and `r` this is exact set equality on unordered pairs. -/
theorem block_unordered_bounds (lt : LinkType) (t : Table) (rules : List Rule)
    (hlt : SelfJoin lt) (hne : rules ≠ []) (hsalt : SaltOK t rules) (hwf : WFKeys t)
    (l r : Nat) (hl : l < t.m) (hr : r < t.m) (hlr : l ≠ r)
    (hsd : lt = .linkOnly → t.sd l ≠ t.sd r) :
    ((∃ i, holds rules i l r) → (∃ i, holds rules i r l) →
        ∃ i, (i, l, r) ∈ block lt t rules ∨ (i, r, l) ∈ block lt t rules) ∧
    ((∀ i, ¬ holds rules i l r) → (∀ i, ¬ holds rules i r l) →
        ∀ i, (i, l, r) ∉ block lt t rules ∧ (i, r, l) ∉ block lt t rules) := by
  open Lemmas.Blk in
  constructor
  · -- one of the two orientations passes the `WHERE` clause, and there some rule is the first TRUE one
    intro hi hj
    rcases whereCond_total hlt hwf hl hr hlr hsd with h | h
    · obtain ⟨k, hk⟩ := (exists_mem_block lt t rules hlt hne hsalt l r).2 ⟨hl, hr, h, hi⟩
      exact ⟨k, Or.inl hk⟩
    · obtain ⟨k, hk⟩ := (exists_mem_block lt t rules hlt hne hsalt r l).2 ⟨hr, hl, h, hj⟩
      exact ⟨k, Or.inr hk⟩
  · intro h1 h2 i
    exact ⟨fun h => h1 i ((mem_block lt t rules hlt hne hsalt i l r).1 h).2.2.2.1,
      fun h => h2 i ((mem_block lt t rules hlt hne hsalt i r l).1 h).2.2.2.1⟩

/-- Salting, exploding and plain execution are interchangeable: two rule lists
with the same outcome functions (kinds and partition counts may differ) emit
the same rows up to order. -/
theorem block_kind_irrelevant (lt : LinkType) (t : Table) (rules rules' : List Rule)
    (hlt : SelfJoin lt) (hsalt : SaltOK t rules) (hsalt' : SaltOK t rules')
    (hev : rules.map (·.eval) = rules'.map (·.eval)) :
    (block lt t rules).Perm (block lt t rules') :=
  Lemmas.Blk.block_perm_congr hlt hsalt hsalt' rfl (fun _ _ => rfl) hev

/-- The two-table `link_only` split (`two_dataset_link_only`) emits exactly the
pairs `(l, r)` with `l` in the lower and `r` in the higher source dataset,
attributed to the first TRUE rule — provided the table has at most two source
datasets. -/
theorem block_two_dataset (t : Table) (rules : List Rule) (hne : rules ≠ [])
    (hsalt : SaltOK t rules)
    (htwo : ∀ a b c, a < t.m → b < t.m → c < t.m → t.sd a = t.sd b ∨ t.sd b = t.sd c ∨ t.sd a = t.sd c)
    (i l r : Nat) :
    (i, l, r) ∈ block .twoDatasetLinkOnly t rules ↔
      l < t.m ∧ r < t.m ∧ t.sd l < t.sd r ∧
      holds rules i l r ∧ ∀ j, j < i → ¬ holds rules j l r :=
  Lemmas.Blk.mem_block_two_dataset t rules hne hsalt htwo i l r

/-- …hence it equals `link_only` on the concatenation whenever composite keys
order records of the lower dataset first (they start with the dataset name). -/
theorem block_two_dataset_eq_link_only (t : Table) (rules : List Rule) (hne : rules ≠ [])
    (hsalt : SaltOK t rules)
    (htwo : ∀ a b c, a < t.m → b < t.m → c < t.m → t.sd a = t.sd b ∨ t.sd b = t.sd c ∨ t.sd a = t.sd c)
    (hord : ∀ a b, a < t.m → b < t.m → t.sd a < t.sd b → t.key a < t.key b)
    (row : Row) :
    row ∈ block .twoDatasetLinkOnly t rules ↔ row ∈ block .linkOnly t rules := by
  obtain ⟨i, l, r⟩ := row
  have hlt : SelfJoin .linkOnly := fun h => nomatch h
  rw [block_two_dataset t rules hne hsalt htwo, block_exact .linkOnly t rules hlt hne hsalt,
    Lemmas.Blk.whereCond_iff hlt]
  refine and_congr_right fun hl => and_congr_right fun hr => and_congr_left fun _ => ?_
  -- the datasets order the keys: `sd l < sd r` iff `key l < key r` and the datasets differ
  refine ⟨fun h => ⟨hord l r hl hr h, fun _ => Nat.ne_of_lt h⟩, fun ⟨h1, h2⟩ => ?_⟩
  rcases Nat.lt_or_gt_of_ne (h2 rfl) with h | h
  · exact h
  · exact absurd (hord r l hr hl h) (Nat.lt_asymm h1)

/-- Non-vacuity: three records, keys 0<1<2, rules `[r0, r1]` with outcomes
(T on (0,1)), (N on (0,1), T on (0,2) and (1,2)); rule 1 salted over 2 partitions. -/
example :
    block .dedupeOnly
      { m := 3, key := id, sd := fun _ => 0, part := fun i n => i % n }
      [ { kind := .plain, eval := fun l r => if l = 0 ∧ r = 1 then some true else some false },
        { kind := .salted 2, eval := fun l r => if l = 0 ∧ r = 1 then none else some (l < r) } ]
      = [(0, 0, 1), (1, 0, 2), (1, 1, 2)] := by decide +kernel

end SplinkVerif.C01
