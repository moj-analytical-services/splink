import SplinkVerif.Lemmas.DescSql2
import SplinkVerif.Properties.C20
/-!
# C20 at the level of the emitted SQL, part 2: comparison-vector distribution, match-weight histogram, unlinkables

`Generated/DescSql.lean` (second part, regenerated on every run by the T-sql translator) holds

* `cvd gs` — `comparison_vector_distribution_sql` for ANY list `gs` of gamma columns (expressions over a row of
  `__splink__df_predict` = `cv_in`); `cvd_generic_k1/2/3 : cvd [g0, …] = K<k>.cvd g0 …` are `rfl` against the statements captured from
  the real code with 1, 2 and 3 comparisons;
* `histStmts bin bw` — the two statements of `_hist_sql` as `histogram_data` emits them, with the floating-point binning expression
  `<bw> * floor(match_weight / <bw>)` as the opaque expression `bin` (the capture checks that SELECT and GROUP BY use the same text) and
  the width literal `bw`;
* `unlStmts rw rp` — the three statements of `unlinkables_data`, with the two `round(…)` expressions as opaque expressions.

`Model/DescSql.lean` runs them (`Rel.eval`, `runStmts`).  The first two are evaluated on EVERY content of the input table (any
number of rows, any values, NULLs included) and every choice of the opaque expressions (`sql_cvd_any_table`,
`sql_histogram_any_table`): a `GROUP BY` listing with one row per distinct key, from which the partition properties are read off;
the unlinkables listing for any self-link table and any two rounding expressions whose values on the table are integers (weights in
hundredths) and `p / scale` (probabilities, `scale > 0`; 10^5 in the code).  On the encoded tables of the functional model the
results are `Descriptive.cvd` / `Descriptive.histogram` / `Descriptive.unlinkables`, row for row and in exact rationals, so `C20`'s
theorems about these hold of the regenerated SQL.  A change to any of the SQL templates changes `Generated/DescSql.lean` and these
proofs (or the `rfl` checks there) stop checking.

`ORDER BY` of the final selects only orders the presentation and is not part of the terms.  What stays outside: *which* bin a weight
is mapped to (`bw * floor(w / bw)` in floating point — the theorems hold for whatever function of the row the engine computes), what
`round(x, k)` returns (any function of the row; its values are read in units of `10^-k`), and the final division to a 32-bit float
(`prop` is `count(*) / cast(sum(count(*)) over () as float)`, `cum_prop` a sum of such floats: exact numbers here).
-/
namespace SplinkVerif.C20Sql
open SplinkVerif SplinkVerif.Rel
open SplinkVerif.Lemmas.DescSql2 (keyOf gamConcatV sumGamV encVec castFloat encSelf)

/-! ### Comparison-vector distribution -/

/-- **The statement on any database, for any non-empty list of gamma columns** (`keyOf gs r` = the gamma vector of row `r`): one row
per distinct gamma vector, in the order of first occurrence: (gam_concat, sum_gam, number of rows with that vector, that number /
number of rows, the vector). -/
theorem sql_cvd_any_table (gs : List Expr) (hgs : gs ≠ []) (db : Db) :
    DescSql.cvd gs db
      = (((db "cv_in").map (keyOf gs)).eraseDups).map fun k =>
          [gamConcatV k, sumGamV k, Val.int (((db "cv_in").filter fun r => keyOf gs r == k).length : Nat),
           Val.rat ((((db "cv_in").filter fun r => keyOf gs r == k).length : Rat) / ((db "cv_in").length : Rat))] ++ k := by
  open Lemmas.Rel Lemmas.DescSql2 in
  unfold DescSql.cvd Gen.DescSql.cvd
  rw [eval_project, eval_join, eval_groupBy, eval_groupBy, eval_table, groupRows_countStar gs hgs, groupRows_total,
    Lemmas.Rel.joinRows_scalar, List.map_map, List.map_map]
  apply List.map_congr_left
  intro k hk
  obtain ⟨r, hr, rfl⟩ := List.mem_map.1 (List.mem_eraseDups.1 hk)
  rw [Function.comp, Function.comp, List.append_assoc, ← keyOf_length gs r]
  exact cvd_row _ _ _ (List.length_pos_of_mem hr).ne'

/-- A row is returned iff it is the row of the gamma vector of some row of the table, with the recount of that vector. -/
theorem sql_cvd_mem_iff (gs : List Expr) (hgs : gs ≠ []) (db : Db) (row : Row) :
    row ∈ DescSql.cvd gs db ↔ ∃ r ∈ db "cv_in",
      row = [gamConcatV (keyOf gs r), sumGamV (keyOf gs r),
             Val.int (((db "cv_in").filter fun x => keyOf gs x == keyOf gs r).length : Nat),
             Val.rat ((((db "cv_in").filter fun x => keyOf gs x == keyOf gs r).length : Rat) / ((db "cv_in").length : Rat))]
            ++ keyOf gs r := by
  rw [sql_cvd_any_table gs hgs]
  exact Lemmas.Desc.mem_groups_map _ (keyOf gs) _ row

/-- **One row per distinct gamma vector**: the gamma columns of the result (everything after the four computed columns) are the
duplicate-free list of the gamma vectors of the table. -/
theorem sql_cvd_one_row_per_vector (gs : List Expr) (hgs : gs ≠ []) (db : Db) :
    (DescSql.cvd gs db).map (fun row => row.drop 4) = ((db "cv_in").map (keyOf gs)).eraseDups ∧
    ((DescSql.cvd gs db).map (fun row => row.drop 4)).Nodup := by
  have h : (DescSql.cvd gs db).map (fun row => row.drop 4) = ((db "cv_in").map (keyOf gs)).eraseDups := by
    rw [sql_cvd_any_table gs hgs, List.map_map]
    exact List.map_id _
  exact ⟨h, h ▸ Lemmas.Lists.nodup_eraseDups _⟩

/-- **The counts partition the rows**: `count_rows_in_comparison_vector_group` is a column of positive integers that add up to the
number of rows of `__splink__df_predict`. -/
theorem sql_cvd_counts_add_up (gs : List Expr) (hgs : gs ≠ []) (db : Db) :
    ∃ cs : List Nat, (DescSql.cvd gs db).map (fun row => row.getD 2 Val.null) = cs.map (fun c => Val.int (c : Nat)) ∧
      cs.sum = (db "cv_in").length ∧ ∀ c ∈ cs, 0 < c := by
  refine ⟨(((db "cv_in").map (keyOf gs)).eraseDups).map fun k => ((db "cv_in").filter fun r => keyOf gs r == k).length,
    ?_, Lemmas.Lists.length_groups _ (keyOf gs), Lemmas.Desc.group_sizes_pos _ (keyOf gs)⟩
  rw [sql_cvd_any_table gs hgs, List.map_map, List.map_map]
  rfl

/-- **The proportions add up to 1** (exact numbers; the table has a row). -/
theorem sql_cvd_proportions_add_up (gs : List Expr) (hgs : gs ≠ []) (db : Db) (hne : db "cv_in" ≠ []) :
    ∃ qs : List Rat, (DescSql.cvd gs db).map (fun row => row.getD 3 Val.null) = qs.map Val.rat ∧ qs.sum = 1 := by
  refine ⟨_, ?_, Lemmas.DescSql.shares_sum (db "cv_in") (keyOf gs) hne⟩
  rw [sql_cvd_any_table gs hgs, List.map_map, List.map_map]
  rfl

/-- `sum_gam` of an integer gamma vector is the model's sum of `sumGamTerm` (−1 ↦ 0, 0 ↦ −1, g ↦ g). -/
theorem sql_cvd_sum_gam (g : List Int) : sumGamV (encVec g) = Val.int ((g.map Descriptive.sumGamTerm).sum) := by
  cases g with
  | nil => rfl
  | cons v vs =>
    simp only [encVec, List.map_cons, sumGamV]
    rw [Lemmas.DescSql2.sumGamTermV_int, Lemmas.DescSql2.foldl_sumGamV_int, List.sum_cons]

/-- **Refinement.**  On the table of the `n ≥ 1` gamma columns of the scored pairs the statement returns exactly the rows of
`Descriptive.cvd`, row for row: (gam_concat, `sumGam`, `count`, exact number `count / total`, the gammas). -/
theorem sql_cvd_eq_model (n : Nat) (hn : 0 < n) (pairs : List (List Int)) (hp : ∀ p ∈ pairs, p.length = n) :
    DescSql.cvdOf n pairs
      = (Descriptive.cvd pairs).map fun r =>
          [gamConcatV (encVec r.gammas), Val.int r.sumGam, Val.int (r.count : Nat), Val.rat ((r.count : Rat) / (r.total : Rat))]
            ++ encVec r.gammas := by
  open Lemmas.Rel Lemmas.DescSql2 in
  unfold DescSql.cvdOf
  rw [sql_cvd_any_table _ (keyCols_ne_nil n hn), set_same,
    listing_enc (fun p : List Int => p.map Val.int) (keyOf (Gen.DescSql.keyCols n)) id encVec encVec_inj pairs
      (fun p hpm => keyOf_keyCols_enc n p (hp p hpm))
      (fun k c => [gamConcatV k, sumGamV k, Val.int (c : Nat),
        Val.rat ((c : Rat) / ((pairs.map fun p => p.map Val.int).length : Rat))] ++ k),
    List.map_id, Descriptive.cvd, Descriptive.groupCount, List.map_map, List.map_map]
  refine List.map_congr_left fun g _ => ?_
  simp only [Function.comp, id, sql_cvd_sum_gam, List.length_map]

/-! ### Match-weight histogram -/

/-- **The two statements of `_hist_sql` on any database, for any binning expression and width**: one row per distinct value of the
binning expression, in the order of first occurrence: (bin low, width, number of rows in the bin, bin low + width). -/
theorem sql_histogram_any_table (bin : Expr) (bw : Val) (db : Db) :
    DescSql.histogram bin bw db
      = (((db "pred_in").map bin.eval).eraseDups).map fun b =>
          [b, bw, Val.int (((db "pred_in").filter fun r => bin.eval r == b).length : Nat), Arith.add.eval b (castFloat bw)] := by
  open Lemmas.Rel Lemmas.DescSql Lemmas.DescSql2 in
  have hg := groupRows_map [bin] (List.cons_ne_nil _ _) [Agg.countStar] (fun r : Row => r) bin.eval (fun b => [b])
    (fun _ _ => List.singleton_inj.1) (fun _ => rfl) (db "pred_in")
  simp only [List.map_id'] at hg
  unfold DescSql.histogram Gen.DescSql.histStmts
  simp only [runStmts]
  rw [set_same]
  unfold Gen.DescSql.hist Gen.DescSql.histRaw
  rw [eval_project, eval_table, set_same, eval_project, eval_groupBy, eval_table, hg, List.map_map, List.map_map]
  rfl

/-- A row is returned iff it is the row of the bin of some row of the table, with the recount of that bin: **every scored pair is in
a listed bin, every listed bin holds a scored pair** (empty bins are not listed). -/
theorem sql_histogram_mem_iff (bin : Expr) (bw : Val) (db : Db) (row : Row) :
    row ∈ DescSql.histogram bin bw db ↔ ∃ r ∈ db "pred_in",
      row = [bin.eval r, bw, Val.int (((db "pred_in").filter fun x => bin.eval x == bin.eval r).length : Nat),
             Arith.add.eval (bin.eval r) (castFloat bw)] := by
  rw [sql_histogram_any_table]
  exact Lemmas.Desc.mem_groups_map _ bin.eval _ row

/-- **One row per bin**: the `splink_score_bin_low` column is the duplicate-free list of the bins of the rows. -/
theorem sql_histogram_one_row_per_bin (bin : Expr) (bw : Val) (db : Db) :
    (DescSql.histogram bin bw db).map (fun row => row.getD 0 Val.null) = ((db "pred_in").map bin.eval).eraseDups ∧
    ((DescSql.histogram bin bw db).map (fun row => row.getD 0 Val.null)).Nodup := by
  have h : (DescSql.histogram bin bw db).map (fun row => row.getD 0 Val.null) = ((db "pred_in").map bin.eval).eraseDups := by
    rw [sql_histogram_any_table, List.map_map]
    exact List.map_id _
  exact ⟨h, h ▸ Lemmas.Lists.nodup_eraseDups _⟩

/-- **The bins partition the rows**: `count_rows` is a column of positive integers that add up to the number of rows of
`__splink__df_predict`. -/
theorem sql_histogram_counts_add_up (bin : Expr) (bw : Val) (db : Db) :
    ∃ cs : List Nat, (DescSql.histogram bin bw db).map (fun row => row.getD 2 Val.null) = cs.map (fun c => Val.int (c : Nat)) ∧
      cs.sum = (db "pred_in").length ∧ ∀ c ∈ cs, 0 < c := by
  refine ⟨(((db "pred_in").map bin.eval).eraseDups).map fun b => ((db "pred_in").filter fun r => bin.eval r == b).length,
    ?_, Lemmas.Lists.length_groups _ bin.eval, Lemmas.Desc.group_sizes_pos _ bin.eval⟩
  rw [sql_histogram_any_table, List.map_map, List.map_map]
  rfl

/-- **Refinement.**  With the bin of every scored pair as an input column (`enc`: any injective reading of the model's bin keys as
SQL values) the statements return exactly the rows of `Descriptive.histogram`, row for row. -/
theorem sql_histogram_eq_model {W K : Type} [BEq K] [LawfulBEq K] (enc : K → Val) (henc : ∀ a b, enc a = enc b → a = b)
    (binLow : W → K) (ws : List W) (bw : Val) :
    DescSql.histogram (Expr.col 0) bw (Db.set (fun _ => []) "pred_in" (ws.map fun w => [enc (binLow w)]))
      = (Descriptive.histogram binLow ws).map fun b =>
          [enc b.1, bw, Val.int (b.2 : Nat), Arith.add.eval (enc b.1) (castFloat bw)] := by
  open Lemmas.Rel Lemmas.DescSql2 in
  rw [sql_histogram_any_table, set_same,
    listing_enc (fun w => [enc (binLow w)]) (Expr.col 0).eval binLow enc henc ws (fun _ _ => rfl)
      (fun b c => [b, bw, Val.int (c : Nat), Arith.add.eval b (castFloat bw)]),
    Descriptive.histogram, Descriptive.groupCount, List.map_map]
  refine List.map_congr_left fun k _ => ?_
  rw [Function.comp, List.filter_map, List.length_map]
  rfl

/-- `splink_score_bin_high = splink_score_bin_low + cast(<bw> as float)` on numbers: an integer width literal (`1`, `2`, `5`) is cast to
the exact number first. -/
theorem sql_histogram_bin_high (x : Rat) :
    (∀ q : Rat, Arith.add.eval (Val.rat x) (castFloat (Val.rat q)) = Val.rat (x + q)) ∧
    (∀ i : Int, Arith.add.eval (Val.rat x) (castFloat (Val.int i)) = Val.rat (x + (i : Rat))) :=
  ⟨fun _ => rfl, fun _ => rfl⟩

/-! ### Unlinkables -/

/-- A row of the rounded self-link table as SQL values (definitional unfolding, for reference): the rounded weight in hundredths
as an integer, the rounded probability `p` units of `1 / scale` as the exact number `p / scale`. -/
theorem encSelf_def (scale : Nat) (r : Int × Int) :
    encSelf scale r = [Val.int r.1, Val.rat ((r.2 : Rat) / (scale : Rat))] := rfl

/-- **Refinement.**  The three statements of `unlinkables_data`, for any self-link table and any two rounding expressions `rw`, `rp`
whose values on the table are `rows` (`hround`), return exactly the rows of `Descriptive.unlinkables`, row for row:
(match_weight, match_probability, exact number `count / total`, exact number `cumCount / total`). -/
theorem sql_unlinkables_eq_model (scale : Nat) (hs : 0 < scale) (rows : List (Int × Int)) (rw rp : Expr) (db : Db)
    (hround : (db "self_in").map (fun r => [rw.eval r, rp.eval r]) = rows.map (encSelf scale)) :
    DescSql.unlinkables rw rp db
      = (Descriptive.unlinkables (scale : Int) rows).map fun r =>
          [Val.int r.weight, Val.rat ((r.prob : Rat) / (scale : Rat)), Val.rat ((r.count : Rat) / (r.total : Rat)),
           Val.rat ((r.cumCount : Rat) / (r.total : Rat))] := by
  open Lemmas.Rel Lemmas.DescSql2 in
  unfold DescSql.unlinkables Gen.DescSql.unlStmts
  simp only [runStmts]
  rw [set_same]
  apply unlCumulative_eval scale hs rows
  rw [set_same]
  apply unlProportions_eval scale hs rows
  rw [set_same]
  unfold Gen.DescSql.roundSelfLink
  rw [eval_project, eval_table, ← hround]
  rfl

/-- **Every listed row is an exact recount** (`C20.unlinkables_cumulative` and `C20.unlinkables_weight_is_max` at the level of the
SQL): the probability is below 1 and is the rounded self-match probability of some record; `prop` = (records with exactly that
probability) / (all records), positive; **`cum_prop` = (records scoring at or below it) / (all records)**; `match_weight` is the
largest rounded weight among the records with that probability. -/
theorem sql_unlinkables_cumulative (scale : Nat) (hs : 0 < scale) (rows : List (Int × Int)) (rw rp : Expr) (db : Db)
    (hround : (db "self_in").map (fun r => [rw.eval r, rp.eval r]) = rows.map (encSelf scale)) :
    ∀ row ∈ DescSql.unlinkables rw rp db, ∃ (w p : Int) (c cum : Nat),
      row = [Val.int w, Val.rat ((p : Rat) / (scale : Rat)), Val.rat ((c : Rat) / (rows.length : Rat)),
             Val.rat ((cum : Rat) / (rows.length : Rat))] ∧
      p < (scale : Int) ∧ p ∈ rows.map (·.2) ∧
      c = (rows.filter fun x => x.2 == p).length ∧ 0 < c ∧
      cum = (rows.filter fun x => decide (x.2 ≤ p)).length ∧
      (w, p) ∈ rows ∧ ∀ x ∈ rows, x.2 = p → x.1 ≤ w := by
  intro row hrow
  rw [sql_unlinkables_eq_model scale hs rows rw rp db hround, List.mem_map] at hrow
  obtain ⟨r, hr, rfl⟩ := hrow
  obtain ⟨h1, h2, h3, h4, h5, h6⟩ := C20.unlinkables_cumulative (scale : Int) rows r hr
  obtain ⟨h7, h8⟩ := C20.unlinkables_weight_is_max (scale : Int) rows r hr
  exact ⟨r.weight, r.prob, r.count, r.cumCount, by rw [h5], h1, h2, h3, h6, h4, h7, h8⟩

/-- **Each probability below 1 is listed, once** (`C20.unlinkables_listed` at the level of the SQL). -/
theorem sql_unlinkables_listed (scale : Nat) (hs : 0 < scale) (rows : List (Int × Int)) (rw rp : Expr) (db : Db)
    (hround : (db "self_in").map (fun r => [rw.eval r, rp.eval r]) = rows.map (encSelf scale)) :
    ((DescSql.unlinkables rw rp db).map fun row => row.getD 1 Val.null).Nodup ∧
    ∀ x ∈ rows, x.2 < (scale : Int) →
      ∃ row ∈ DescSql.unlinkables rw rp db, row.getD 1 Val.null = Val.rat ((x.2 : Rat) / (scale : Rat)) := by
  rw [sql_unlinkables_eq_model scale hs rows rw rp db hround]
  obtain ⟨hnd, hall⟩ := C20.unlinkables_listed (scale : Int) rows
  constructor
  · have h := hnd.map fun a b h => Lemmas.DescSql2.encP_inj scale hs a b h
    rw [List.map_map] at h ⊢
    exact h
  · intro x hx hlt
    obtain ⟨r, hr, hp⟩ := hall x hx hlt
    exact ⟨_, List.mem_map_of_mem hr, by rw [← hp]; rfl⟩

/-! ### Non-vacuity -/

/-- Three scored pairs, two comparisons, gamma vectors (1,0), (−1,1), (1,0) through the regenerated statement: two rows, counts 2 and
1, proportions 2/3 and 1/3, `sum_gam` 0 and 1. -/
example : DescSql.cvdOf 2 [[1, 0], [-1, 1], [1, 0]]
    = [[Val.str "1,0", Val.int 0, Val.int 2, Val.rat (2 / 3), Val.int 1, Val.int 0],
       [Val.str "-1,1", Val.int 1, Val.int 1, Val.rat (1 / 3), Val.int (-1), Val.int 1]] := by
  decide +kernel

/-- … and the model's rows. -/
example : (Descriptive.cvd [[1, 0], [-1, 1], [1, 0]]).map (fun r => (r.gammas, r.sumGam, r.count, r.total))
    = [([1, 0], 0, 2, 3), ([-1, 1], 1, 1, 3)] := by
  decide +kernel

/-- One comparison: `gam_concat` is the integer column itself, not a text. -/
example : DescSql.cvdOf 1 [[2], [2]] = [[Val.int 2, Val.int 2, Val.int 2, Val.rat 1, Val.int 2]] := by
  decide +kernel

/-- A NULL gamma is a group of its own (`GROUP BY` equality), `gam_concat` and `sum_gam` are then NULL; the gamma columns may sit
anywhere in the row (here positions 2 and 0). -/
example : DescSql.cvd [Expr.col 2, Expr.col 0]
      (Db.set (fun _ => []) "cv_in" [[Val.int 1, Val.str "x", Val.null], [Val.int 1, Val.str "y", Val.null]])
    = [[Val.null, Val.null, Val.int 2, Val.rat 1, Val.null, Val.int 1]] := by
  decide +kernel

/-- No scored pair: no row (the scalar subquery `count(*) = 0` is never divided by). -/
example : DescSql.cvdOf 2 [] = [] := by
  decide +kernel

/-- Weights in bins 5, 1, −2, 1 (width 1, an integer literal): three rows, the bin 1 holds two pairs; empty bins (0, 2, 3, 4, −1)
are not listed. -/
example : DescSql.histogram (Expr.col 0) (Val.int 1)
      (Db.set (fun _ => []) "pred_in" [[Val.rat 5], [Val.rat 1], [Val.rat (-2)], [Val.rat 1]])
    = [[Val.rat 5, Val.int 1, Val.int 1, Val.rat 6], [Val.rat 1, Val.int 1, Val.int 2, Val.rat 2],
       [Val.rat (-2), Val.int 1, Val.int 1, Val.rat (-1)]] := by
  decide +kernel

/-- … and the model's histogram of the same bins. -/
example : Descriptive.histogram (fun w : Int => w) [5, 1, -2, 1] = [(5, 1), (1, 2), (-2, 1)] := by
  decide +kernel

/-- No scored pair: no row. -/
example : DescSql.histogram (Expr.col 0) (Val.int 1) (fun _ => []) = [] := by
  decide +kernel

/-- Four records with rounded (weight, probability) = (1.20, 0.5), (0.80, 0.5), (3.00, 0.9), (5.00, 1.0) (scale 10): the probability 1
is not listed; 0.5: largest weight 1.20, prop 2/4, cum_prop 2/4; 0.9: prop 1/4, cum_prop 3/4. -/
example : DescSql.unlinkables (Expr.col 0) (Expr.col 1)
      (Db.set (fun _ => []) "self_in" ([(120, 5), (80, 5), (300, 9), (500, 10)].map (encSelf 10)))
    = [[Val.int 120, Val.rat (1 / 2), Val.rat (1 / 2), Val.rat (1 / 2)],
       [Val.int 300, Val.rat (9 / 10), Val.rat (1 / 4), Val.rat (3 / 4)]] := by
  decide +kernel

/-- … and the model's rows. -/
example : (Descriptive.unlinkables 10 [(120, 5), (80, 5), (300, 9), (500, 10)]).map
      (fun r => (r.weight, r.prob, r.count, r.cumCount, r.total))
    = [(120, 5, 2, 2, 4), (300, 9, 1, 3, 4)] := by
  decide +kernel

/-- The hypothesis `hround` is satisfiable with the expressions reading two columns of the table. -/
example : ((Db.set (fun _ => []) "self_in" ([(120, 5), (500, 10)].map (encSelf 10))) "self_in").map
      (fun r => [(Expr.col 0).eval r, (Expr.col 1).eval r]) = [(120, 5), (500, 10)].map (encSelf 10) := by
  decide +kernel

/-- All records score 1: nothing is listed; no record: nothing is listed. -/
example : DescSql.unlinkables (Expr.col 0) (Expr.col 1) (Db.set (fun _ => []) "self_in" ([(500, 10), (700, 10)].map (encSelf 10))) = [] ∧
    DescSql.unlinkables (Expr.col 0) (Expr.col 1) (fun _ => []) = [] := by
  decide +kernel

end SplinkVerif.C20Sql
