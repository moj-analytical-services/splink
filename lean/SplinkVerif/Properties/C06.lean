import Lean
import SplinkVerif.Lemmas.Dialects
import SplinkVerif.Drv.Blocking
import SplinkVerif.Drv.Score
import SplinkVerif.Drv.EM
import SplinkVerif.Drv.Estimators
import SplinkVerif.Drv.CC
import SplinkVerif.Drv.MultiThreshold
import SplinkVerif.Drv.BlockingAnalysis
/-!
# C06 — all executable backends compute the same linkage

There is ONE model per pipeline and none of them knows about dialects:
`Model/Blocking.lean` (C01), `Model/Score.lean` (C02), `Model/EM.lean` (C03),
`Model/Estimators.lean` (C04), `Model/CC.lean` (C05), `Model/MultiThreshold.lean` (C11),
`Model/BlockingAnalysis.lean` (C14); each backend's real output is compared with them by the
checks of those properties, and `harness/props/c06.py` compares the backends' real outputs with
one another on the same scenarios.  What remains dialect-specific in Splink's SQL is the
vocabulary recorded in the GENERATED table `Gen.dialectTable` (`Generated/Dialects.lean`,
re-derived from /repo and from the real backends on every run).  The theorems below are finite
quantifiers over that table, proved by kernel evaluation.
-/
namespace SplinkVerif.C06
open SplinkVerif

/-- For every similarity/distance kind and every pair of dialects whose emitted function could be
evaluated and classified on the real backend (so: every pair of executable dialects that both
support the kind), the two functions have the SAME orientation, it is the one the comparison
level assumes (`>= t` needs a similarity, `<= t` a distance), and both return NULL on NULL input.
Catches F5 (SQLite `jaro_winkler` registered as a distance) and F16 (UDFs reading NULL as 'None'). -/
theorem dialects_same_meaning (d1 d2 : DialectEntry) (h1 : d1 ∈ Gen.dialectTable) (h2 : d2 ∈ Gen.dialectTable)
    (k : Kind) (o1 o2 : Orientation) (n1 n2 : Bool)
    (c1 : d1.classOf k = some (o1, n1)) (c2 : d2.classOf k = some (o2, n2)) :
    o1 = o2 ∧ o1 = expectedOrientation k ∧ n1 = true ∧ n2 = true := by
  have h := Lemmas.Dialects.agree_table d1 h1 d2 h2 k (Lemmas.Dialects.allKinds_complete k)
  rw [c1, c2] at h
  exact h

/-- On DuckDB (built-in functions) and SQLite (functions registered by `SQLiteAPI._register_udfs`)
every function name the dialect emits really evaluates, to a classifiable function — so the
hypotheses of `dialects_same_meaning` hold for every kind both support.  Catches the other half
of F5 (`jaro_sim` emitted but not registered). -/
theorem emitted_functions_run (d : DialectEntry) (h : d ∈ Gen.dialectTable) (he : d.executed = true)
    (hd : d.dialect = .duckdb ∨ d.dialect = .sqlite) (k : Kind) (hs : d.supports k = true) :
    (d.classOf k).isSome = true :=
  Lemmas.Dialects.emitted_runs_table d h he hd k (Lemmas.Dialects.allKinds_complete k) hs

/-- The table was produced with DuckDB and SQLite really executed (the two theorems above are not vacuous). -/
theorem duckdb_and_sqlite_executed :
    (∃ d ∈ Gen.dialectTable, d.dialect = .duckdb ∧ d.executed = true) ∧
    (∃ d ∈ Gen.dialectTable, d.dialect = .sqlite ∧ d.executed = true) := by
  decide +kernel

/-- For every dialect (executable or not) and every kind it supports, the level creator of
`comparison_level_library.py` writes the comparator `expectedOrientation` stands for. -/
theorem level_comparators_as_assumed (d : DialectEntry) (h : d ∈ Gen.dialectTable) (k : Kind)
    (hs : d.supports k = true) :
    (d.dialect, k, (expectedOrientation k).comparator) ∈ Gen.levelComparators :=
  Lemmas.Dialects.comparators_table d h k (Lemmas.Dialects.allKinds_complete k) hs

/-- …and no level creator writes anything else. -/
theorem level_comparators_only_expected (e : Dialect × Kind × Cmp) (h : e ∈ Gen.levelComparators) :
    e.2.2 = (expectedOrientation e.2.1).comparator := by
  revert e
  decide +kernel

/-- On every executed dialect — SQLite included: its dialect writes the numeric literal `9e999`, which SQLite reads as
+∞ (the text `'infinity'` of finding K6, repaired in Splink, casts to 0.0) — the three
uses of infinity work: the Bayes-factor literal `_bayes_factor_sql` emits for `u = 0` is +∞, comparing it with the
dialect's `infinity_expression` is TRUE, and `log2(infinity_expression)` is +∞.  (A regression brings the failure back,
because the table is regenerated from the running backends.) -/
theorem infinity_consistent (d : DialectEntry) (h : d ∈ Gen.dialectTable)
    (p : InfinityProbe) (hp : d.infinity = some p) : p.ok = true := by
  have := Lemmas.Dialects.infinity_table d h
  rw [hp] at this
  simpa using this

/-- `array_first_index`: on every executed dialect that has arrays, the emitted first-element
access returns the first element of a three-element array. -/
theorem array_first_index_consistent (d : DialectEntry) (h : d ∈ Gen.dialectTable)
    (he : d.executed = true) (ha : d.arrayFirstIndex.isSome = true) :
    d.firstIndexSelectsFirst = some true := by
  revert d
  decide +kernel

/-- Non-vacuity: DuckDB and SQLite both classify Jaro-Winkler, as a NULL-propagating similarity. -/
example : Gen.duckdbEntry.classOf .jaroWinkler = some (.similarity, true) ∧
    Gen.sqliteEntry.classOf .jaroWinkler = some (.similarity, true) := by decide +kernel

/-- Non-vacuity of the detector: the table of the unrepaired tree (F5: a distance registered under
`jaro_winkler`) is rejected by the statement `dialects_same_meaning` decides. -/
example : ¬ Lemmas.Dialects.Agree .jaroWinkler (some (.similarity, true)) (some (.distance, true)) := by decide +kernel
example : ¬ Lemmas.Dialects.Agree .levenshtein (some (.distance, true)) (some (.distance, false)) := by decide +kernel

/-!
## `model_is_dialect_free` — an elaboration-time check, not a kernel theorem

"No model takes the dialect as input" is a statement about the *definitions*, which Lean's logic
cannot quantify over.  It is checked here by walking the environment: no constant of any imported
`SplinkVerif` module other than the four dialect modules mentions a type of `Model/Dialects.lean`
in its type or its value, and the entry points the driver uses for C01–C05, C11, C14 are present
(so the walk is not vacuous).  The build of this module fails if the check fails.  In particular
`Gen.dialectTable`/`Gen.levelComparators` are the only generated definitions depending on `Dialect`
(`Generated/Arith.lean` is walked too).  Listed under `open_statements`: this is meta-level evidence.
-/
open Lean Elab Command in
run_cmd do
  let env ← getEnv
  let dialectTypes : List Name := [``Dialect, ``Kind, ``Orientation, ``Cmp, ``Behaviour, ``FnEntry,
    ``InfinityProbe, ``DialectEntry]
  let allowedMods : List Name := [`SplinkVerif.Model.Dialects, `SplinkVerif.Generated.Dialects,
    `SplinkVerif.Lemmas.Dialects]
  let entryPoints : List Name := [``Drv.handleBlock, ``Drv.handleScore, ``Drv.handleEMStep, ``Drv.handleEMRun,
    ``Drv.handleEMMisc, ``Drv.handleEstim, ``Drv.handleCC, ``Drv.handleMulti, ``Drv.handleBlockAnalysis,
    ``Drv.handleArith, ``Blocking.block, ``Gen.calculate_cartesian]
  for e in entryPoints do
    unless env.contains e do throwError "model_is_dialect_free: entry point {e} not found"
  let mut walked : Nat := 0
  let mut bad : Array Name := #[]
  for (n, ci) in env.constants.map₁.toList do
    let some idx := env.getModuleIdxFor? n | continue
    let mod := env.header.moduleNames[idx.toNat]!
    unless (`SplinkVerif).isPrefixOf mod do continue
    if allowedMods.contains mod then continue
    walked := walked + 1
    let used := ci.type.getUsedConstants ++ (ci.value?.map (·.getUsedConstants)).getD #[]
    if used.any (fun c => dialectTypes.contains c) then bad := bad.push n
  if walked < 500 then throwError "model_is_dialect_free: only {walked} constants walked"
  unless bad.isEmpty do throwError "model_is_dialect_free: these definitions depend on the dialect vocabulary: {bad}"
  logInfo m!"model_is_dialect_free: {walked} constants of the model/driver modules walked, none mentions a dialect type"

end SplinkVerif.C06
