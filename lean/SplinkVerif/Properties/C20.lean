import SplinkVerif.Lemmas.Descriptive
/-!
# C20 — descriptive outputs are exact recounts of the data

Property theorems about `Model/Descriptive.lean`.  Every share is an exact pair
(numerator, denominator) of naturals; "sums to 1" is "numerators sum to the common
denominator, which is positive".  Columns are lists of `Option Nat` (`none` = NULL).
-/
namespace SplinkVerif.C20
open SplinkVerif SplinkVerif.Descriptive

/-- A row is in the TF table iff its value occurs (non-NULL) in the column, its numerator is the number of
cells holding that value and its denominator the number of non-NULL cells: `tf = relative frequency among
non-NULL values`.  NULL never has a row. -/
theorem tf_relative_frequency (col : List Val) (r : TfRow) :
    r ∈ tfTable col ↔
      some r.value ∈ col ∧ r.num = (col.filter fun v => v == some r.value).length ∧
      r.den = countNonNull col := by
  open Lemmas.Desc in
  simp only [tfTable, List.mem_map]
  constructor
  · rintro ⟨⟨k, c⟩, hg, rfl⟩
    rw [mem_groupCount] at hg
    refine ⟨(mem_nonNull col k).1 hg.1, ?_, rfl⟩
    simp only [hg.2, length_filter_nonNull]
  · rintro ⟨hv, hn, hd⟩
    refine ⟨(r.value, r.num), ?_, ?_⟩
    · rw [mem_groupCount]
      exact ⟨(mem_nonNull col _).2 hv, by rw [hn, length_filter_nonNull]⟩
    · cases r
      exact congrArg (TfRow.mk _ _) hd.symm

/-- Each value has one row, the numerators add up to the common denominator (the term frequencies sum to 1
whenever some cell is non-NULL), and no frequency is 0 or a division by 0. -/
theorem tf_sums_to_one (col : List Val) :
    ((tfTable col).map (·.value)).Nodup ∧
    ((tfTable col).map (·.num)).sum = countNonNull col ∧
    ∀ r ∈ tfTable col, r.den = countNonNull col ∧ 0 < r.num ∧ 0 < r.den := by
  open Lemmas.Desc in
  refine ⟨?_, ?_, fun r h => ?_⟩
  · rw [tfTable_values]
    exact Lemmas.Lists.nodup_eraseDups _
  · rw [tfTable, List.map_map, countNonNull_eq]
    exact groupCount_sum (nonNull col)
  · obtain ⟨hv, hn, hd⟩ := (tf_relative_frequency col r).1 h
    have h1 := group_pos col id hv
    have h2 : 0 < countNonNull col := List.length_pos_of_mem (List.mem_filter.2 ⟨hv, rfl⟩)
    exact ⟨hd, hn ▸ h1, hd ▸ h2⟩

/-- The `LEFT JOIN` that puts `tf_<col>` on `__splink__df_concat_with_tf` (the table predict scores from)
returns exactly one row per input record, in order, carrying the TF table's entry for the record's value —
`count(value) / count(non-NULL)` — and NULL for a NULL value. -/
theorem tf_used_in_scoring (col : List Val) :
    leftJoinTf col (tfTable col) =
      col.map fun v => (v, v.map fun x => ((col.filter fun y => y == some x).length, countNonNull col)) := by
  open Lemmas.Desc in
  unfold leftJoinTf
  apply Lemmas.Lists.flatMap_singleton
  intro v hv
  cases v with
  | none => rfl
  | some x =>
    have hx : x ∈ (nonNull col).eraseDups := by
      rw [List.mem_eraseDups]
      exact (mem_nonNull col x).2 hv
    have hf := Lemmas.Lists.filter_key_nodup (nonNull col).eraseDups
      (fun k => ({ value := k, num := ((nonNull col).filter fun y => y == k).length, den := countNonNull col } : TfRow))
      (fun r => r.value) (fun _ => rfl) (Lemmas.Lists.nodup_eraseDups _) x
    rw [if_pos hx] at hf
    dsimp only
    rw [tfTable_as_map, hf]
    simp only [List.map_cons, List.map_nil, Option.map_some, length_filter_nonNull]

/-- Every completeness row is a recount of its (dataset, column): `total_rows_inc_nulls` = rows of the dataset,
`completeness` = non-NULL cells / rows of the dataset, `total_null_rows` is the remainder, and the divisor is
positive. -/
theorem completeness_def (sd : List Nat) (col : List Val) (row : ComplRow)
    (h : row ∈ completenessCol sd col) :
    row.totalRows = ((sd.zip col).filter fun r => r.1 == row.sd).length ∧
    row.nonNullRows = ((sd.zip col).filter fun r => r.1 == row.sd && r.2.isSome).length ∧
    row.nullRows + row.nonNullRows = row.totalRows ∧ 0 < row.totalRows := by
  open Lemmas.Desc in
  rw [completenessCol_eq] at h
  obtain ⟨r, hr, rfl⟩ := (mem_groups_map (sd.zip col) (·.1) _ row).1 h
  exact ⟨rfl, rfl, Nat.sub_add_cancel (Nat.le.intro (length_filter_and_not (sd.zip col) (·.1 == r.1) (·.2.isSome))),
    group_pos (sd.zip col) (·.1) hr⟩

/-- One row per dataset that has records, every record's dataset is listed, and the row totals add up to the
number of records. -/
theorem completeness_covers (sd : List Nat) (col : List Val) :
    ((completenessCol sd col).map (·.sd)).Nodup ∧
    (∀ r ∈ sd.zip col, ∃ row ∈ completenessCol sd col, row.sd = r.1) ∧
    ((completenessCol sd col).map (·.totalRows)).sum = (sd.zip col).length := by
  open Lemmas.Desc in
  rw [completenessCol_eq]
  refine ⟨?_, fun r hr => ⟨_, (mem_groups_map (sd.zip col) (·.1) _ _).2 ⟨r, hr, rfl⟩, rfl⟩, ?_⟩
  · rw [List.map_map]
    exact (congrArg List.Nodup (List.map_id _)).mpr (Lemmas.Lists.nodup_eraseDups _)
  · rw [List.map_map]
    exact Lemmas.Lists.length_groups (sd.zip col) (·.1)

/-- The comparison-vector distribution partitions the scored pairs: the counts add up to the number of pairs
(so the proportions `count / total` add up to 1), the listed vectors are distinct, every pair's vector is
listed (hence in exactly one group), and each count is the number of pairs with that vector. -/
theorem cvd_partitions (pairs : List (List Int)) :
    ((cvd pairs).map (·.count)).sum = pairs.length ∧
    ((cvd pairs).map (·.gammas)).Nodup ∧
    (∀ p ∈ pairs, ∃ row ∈ cvd pairs, row.gammas = p) ∧
    ∀ row ∈ cvd pairs, row.gammas ∈ pairs ∧
      row.count = (pairs.filter fun p => p == row.gammas).length ∧ 0 < row.count ∧
      row.total = pairs.length ∧ row.sumGam = (row.gammas.map sumGamTerm).sum := by
  open Lemmas.Desc in
  refine ⟨?_, ?_, fun p hp => ?_, fun row hrow => ?_⟩
  · rw [cvd, List.map_map]
    exact groupCount_sum pairs
  · rw [cvd, List.map_map]
    exact groupCount_nodup pairs
  · exact ⟨_, List.mem_map_of_mem ((mem_groupCount pairs p _).2 ⟨hp, rfl⟩), rfl⟩
  · simp only [cvd, List.mem_map] at hrow
    obtain ⟨⟨k, c⟩, hg, rfl⟩ := hrow
    rw [mem_groupCount] at hg
    refine ⟨hg.1, hg.2, ?_, rfl, rfl⟩
    simp only [hg.2]
    exact group_pos pairs id hg.1

/-- The histogram partitions the scored pairs for ANY bin function (in particular the library's
`bw * floor(w / bw)` at `Float`): counts add up to the number of pairs, bin keys are distinct, every pair's
bin is listed with the number of pairs falling in it, and there is no empty or invented bin. -/
theorem histogram_partitions {W K : Type} [BEq K] [LawfulBEq K] (binLow : W → K) (ws : List W) :
    ((histogram binLow ws).map (·.2)).sum = ws.length ∧
    ((histogram binLow ws).map (·.1)).Nodup ∧
    (∀ w ∈ ws, (binLow w, (ws.filter fun w' => binLow w' == binLow w).length) ∈ histogram binLow ws) ∧
    ∀ b ∈ histogram binLow ws, 0 < b.2 ∧ b.2 = (ws.filter fun w' => binLow w' == b.1).length ∧
      ∃ w ∈ ws, binLow w = b.1 := by
  open Lemmas.Desc in
  have hcnt : ∀ k, ((ws.map binLow).filter fun x => x == k).length =
      (ws.filter fun w' => binLow w' == k).length := by
    intro k
    rw [List.filter_map, List.length_map]
    rfl
  refine ⟨?_, groupCount_nodup _, fun w hw => ?_, ?_⟩
  · rw [histogram, groupCount_sum, List.length_map]
  · rw [histogram, mem_groupCount]
    exact ⟨List.mem_map_of_mem hw, (hcnt _).symm⟩
  · rintro ⟨k, c⟩ hb
    rw [histogram, mem_groupCount, hcnt] at hb
    obtain ⟨hk, rfl⟩ := hb
    obtain ⟨w, hw, rfl⟩ := List.mem_map.1 hk
    exact ⟨group_pos ws binLow hw, rfl, w, hw, rfl⟩

/-- On exact numbers (weights and width in a common unit) the coded bin `bw * floor(w / bw)` contains its
weight in `[low, low + bw)` … -/
theorem histogram_bin_contains (bw w : Int) (h : 0 < bw) :
    binLowInt bw w ≤ w ∧ w < binLowInt bw w + bw := by
  unfold binLowInt
  have h1 := Int.mul_ediv_add_emod w bw
  have h2 := Int.emod_nonneg w (Int.ne_of_gt h)
  have h3 := Int.emod_lt_of_pos w h
  omega

/-- … and is the only multiple of the width that does: each pair is in exactly one bin. -/
theorem histogram_bin_unique (bw w k : Int) (h : 0 < bw) (h1 : bw * k ≤ w) (h2 : w < bw * k + bw) :
    bw * k = binLowInt bw w := by
  unfold binLowInt
  have hk : k = w / bw := by
    apply Int.le_antisymm
    · rw [Int.le_ediv_iff_mul_le h, Int.mul_comm]
      exact h1
    · have : w / bw < k + 1 := by
        rw [Int.ediv_lt_iff_lt_mul h, Int.add_mul, Int.one_mul, Int.mul_comm k bw]
        exact h2
      omega
  rw [hk]

/-- `_bins` returns one of the eight listed widths, and none of them is closer to the rough width
`(max - min) / num_bins = num / den` hundredths. -/
theorem histogram_width_closest (num : Int) (den : Nat) :
    chooseWidthCenti num den ∈ binWidthsCenti ∧
    ∀ w ∈ binWidthsCenti,
      (chooseWidthCenti num den * den - num).natAbs ≤ (w * den - num).natAbs := by
  have h := Lemmas.Desc.bestBin_spec (fun w : Int => (w * den - num).natAbs) 1 binWidthsCenti
  refine ⟨?_, fun w hw => h.2 w (List.mem_cons_of_mem _ hw)⟩
  have hm := h.1
  simp only [List.mem_cons] at hm
  rcases hm with hm | hm
  · unfold chooseWidthCenti
    rw [hm]
    -- the default width `1` is the first of the list
    exact List.mem_cons_self
  · exact hm

/-- Every listed self-match probability is below 1, occurs among the (rounded) self-link scores, and its row
gives the number of records with exactly that value, the number of records scoring at or below it (`cum_prop`
= that number / number of records) and the number of records. -/
theorem unlinkables_cumulative (one : Int) (rows : List (Int × Int)) (row : UnlRow)
    (h : row ∈ unlinkables one rows) :
    row.prob < one ∧ row.prob ∈ rows.map (·.2) ∧
    row.count = (rows.filter fun x => x.2 == row.prob).length ∧
    row.cumCount = (rows.filter fun x => decide (x.2 ≤ row.prob)).length ∧
    row.total = rows.length ∧ 0 < row.count := by
  open Lemmas.Desc in
  obtain ⟨r, hr, hlt, rfl⟩ := (mem_unlinkables one rows row).1 h
  obtain ⟨x, hx, rfl⟩ := (mem_unlProportions rows r).1 hr
  exact ⟨hlt, List.mem_map_of_mem hx, rfl, rfl, rfl, group_pos rows (·.2) hx⟩

/-- Each rounded self-match probability below 1 is listed exactly once. -/
theorem unlinkables_listed (one : Int) (rows : List (Int × Int)) :
    ((unlinkables one rows).map (·.prob)).Nodup ∧
    ∀ x ∈ rows, x.2 < one → ∃ row ∈ unlinkables one rows, row.prob = x.2 := by
  open Lemmas.Desc in
  refine ⟨?_, fun x hx hlt => ?_⟩
  · have h1 : (unlinkables one rows).map (·.prob) =
        (((unlProportions rows).filter fun r => decide (r.prob < one)).map (·.prob)) := by
      simp [unlinkables, Function.comp_def]
    rw [h1]
    have h2 : ((unlProportions rows).map (·.prob)).Nodup := by
      rw [unlProportions_probs]
      exact Lemmas.Lists.nodup_eraseDups _
    exact h2.sublist (List.Sublist.map _ List.filter_sublist)
  · exact ⟨_, (mem_unlinkables one rows _).2 ⟨_, (mem_unlProportions rows _).2 ⟨x, hx, rfl⟩, hlt, rfl⟩, rfl⟩

/-- The `match_weight` shown beside a listed probability is the largest (rounded) weight among the records
with that probability. -/
theorem unlinkables_weight_is_max (one : Int) (rows : List (Int × Int)) (row : UnlRow)
    (h : row ∈ unlinkables one rows) :
    (row.weight, row.prob) ∈ rows ∧ ∀ x ∈ rows, x.2 = row.prob → x.1 ≤ row.weight := by
  open Lemmas.Desc in
  obtain ⟨r, hr, _, rfl⟩ := (mem_unlinkables one rows row).1 h
  obtain ⟨x0, hx0, rfl⟩ := (mem_unlProportions rows r).1 hr
  have hne : ((rows.filter fun x => x.2 == x0.2).map (·.1)) ≠ [] :=
    List.ne_nil_of_mem (List.mem_map_of_mem (List.mem_filter.2 ⟨hx0, beq_self_eq_true _⟩))
  obtain ⟨hm, hle⟩ := maxOver_spec _ hne
  refine ⟨?_, fun x hx hxe => hle _ (List.mem_map_of_mem (List.mem_filter.2 ⟨hx, beq_iff_eq.2 hxe⟩))⟩
  obtain ⟨y, hy, hye⟩ := List.mem_map.1 hm
  rw [List.mem_filter, beq_iff_eq] at hy
  show (_, x0.2) ∈ rows
  rw [← hye, ← hy.2]
  exact hy.1

/-- Half-away-from-zero rounding (DuckDB's `round(x, k)` on an exact value) moves a value by at most half a
unit: `|round(n/d · s) − n/d · s| ≤ 1/2`, cleared of denominators. -/
theorem round_within_half_unit (n : Int) (d scale : Nat) (hd : 0 < d) :
    2 * (d : Int) * roundHalfAway n d scale - 2 * n * scale ≤ d ∧
    2 * n * scale - 2 * (d : Int) * roundHalfAway n d scale ≤ d := by
  unfold roundHalfAway
  split
  · exact Lemmas.Desc.half_round (2 * n * scale) d (Int.natCast_pos.2 hd)
  · have h := Lemmas.Desc.half_round (2 * (-n) * scale) d (Int.natCast_pos.2 hd)
    rw [Int.mul_neg, Int.neg_mul] at h
    rw [Int.mul_neg, Int.mul_neg, Int.neg_mul]
    omega

-- column [x, NULL, y, x]: tf(x) = 2/3, tf(y) = 1/3
example : tfTable [some 7, none, some 9, some 7] = [⟨7, 2, 3⟩, ⟨9, 1, 3⟩] := by decide +kernel
example : leftJoinTf [some 7, none, some 9] (tfTable [some 7, none, some 9, some 7]) =
    [(some 7, some (2, 3)), (none, none), (some 9, some (1, 3))] := by decide +kernel
-- all-NULL column: empty TF table
example : tfTable [none, none] = [] := by decide +kernel
-- two datasets, second all NULL
example : completenessCol [0, 0, 1, 0] [some 1, none, none, some 2] = [⟨0, 1, 3, 2⟩, ⟨1, 1, 1, 0⟩] := by decide +kernel
example : cvd [[1, -1], [0, 0], [1, -1]] = [⟨[1, -1], 1, 2, 3⟩, ⟨[0, 0], -2, 1, 3⟩] := by decide +kernel
-- weights -7, -1, 0, 3, 4 (hundredths) with width 5: bins -10, -5, 0
example : histogram (binLowInt 5) [-7, -1, 0, 3, 4] = [(-10, 1), (-5, 1), (0, 3)] := by decide +kernel
example : chooseWidthCenti 30 1 = 25 := by decide +kernel
example : chooseWidthCenti 15 1 = 10 := by decide +kernel  -- tie between 10 and 20: the first wins
-- four records at p = 0.5, 0.5, 1.0, 0.2 (unit 10^5): the p = 1 row is dropped but still counts in the denominator
example : unlinkables 100000 [(0, 50000), (3, 50000), (900, 100000), (-100, 20000)] =
    [⟨3, 50000, 2, 3, 4⟩, ⟨-100, 20000, 1, 1, 4⟩] := by decide +kernel
example : roundHalfAway 5 2 1 = 3 ∧ roundHalfAway (-5) 2 1 = -3 ∧ roundHalfAway 1 3 100 = 33 := by decide +kernel

end SplinkVerif.C20
