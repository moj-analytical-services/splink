import SplinkVerif.Lemmas.Accuracy
/-!
# C15 — accuracy tables are exact recounts of the labelled pairs

The counting argument is in `Lemmas/Accuracy.lean` (every column of the pipeline is a count of labelled pairs; each
theorem about the rows before the final `where` is restricted here to the rows that pass it).  All statements are about
`Model/Accuracy.lean`, the CTE-by-CTE model of `truth_space_table_from_labels_with_predictions_sqls`
and of the `prediction_errors_*` functions, for **every** list of scored labelled pairs (any length,
any ties, empty classes), every `threshold_actual`, every bucketing function (rounding on or off),
the not-found option on or off, and `total_labels` present (label column) or absent (labels table).
Values that are only compared are integer order keys (see the model's header).

`cnt xs p` is the number of labelled pairs satisfying `p`; `adjScore cfg x` is the score a pair is
counted at (its bucketed match weight, or the `-999` sentinel when the option is on and the
blocking rules did not find it); `ghosts cfg xs = total_labels - |xs|` are the implicit negatives of
label-column mode (`0` for a labels table).
-/
namespace SplinkVerif.C15
open SplinkVerif SplinkVerif.Accuracy SplinkVerif.Lemmas.Acc

/-- **Recount.**  In every row of the truth-space table each count is the direct recount of the
labelled pairs at that row's threshold `t`: a pair is a predicted positive iff its (adjusted) score
is `≥ t`, a clerical positive iff `clerical_match_score ≥ threshold_actual`; the implicit negatives of
label-column mode are all true negatives. -/
theorem recount (cfg : Cfg) (xs : List Scored) :
    ∀ r ∈ truthSpace cfg xs,
      r.tp = cnt xs (fun x => isPos cfg x && decide (adjScore cfg x ≥ r.truthThreshold)) ∧
      r.fp = cnt xs (fun x => !isPos cfg x && decide (adjScore cfg x ≥ r.truthThreshold)) ∧
      r.fn = cnt xs (fun x => isPos cfg x && decide (adjScore cfg x < r.truthThreshold)) ∧
      r.tn = cnt xs (fun x => !isPos cfg x && decide (adjScore cfg x < r.truthThreshold)) + ghosts cfg xs ∧
      r.p = cnt xs (fun x => isPos cfg x) ∧
      r.n = cnt xs (fun x => !isPos cfg x) + ghosts cfg xs ∧
      r.total = (xs.length : Int) + ghosts cfg xs :=
  fun _ hr => recount_rows cfg xs (mem_truthSpace cfg xs hr).1

/-- **Not found = predicted negative.**  With the option on (and the sentinel below the cut-off of
the final `where`, as `-999 < -998`), a pair the blocking rules did not find is a predicted negative
at every reported threshold: TP and FP count only found pairs, FN and TN count the pairs scored
below `t` *or* not found. -/
theorem not_found_predicted_negative (cfg : Cfg) (xs : List Scored)
    (hopt : cfg.scoreNotFoundAsZero = true) (hs : cfg.sentinel < cfg.cutoff) :
    ∀ r ∈ truthSpace cfg xs,
      r.tp = cnt xs (fun x => isPos cfg x && (x.found && decide (cfg.bucket x.weight ≥ r.truthThreshold))) ∧
      r.fp = cnt xs (fun x => !isPos cfg x && (x.found && decide (cfg.bucket x.weight ≥ r.truthThreshold))) ∧
      r.fn = cnt xs (fun x => isPos cfg x && (!x.found || decide (cfg.bucket x.weight < r.truthThreshold))) ∧
      r.tn = cnt xs (fun x => !isPos cfg x && (!x.found || decide (cfg.bucket x.weight < r.truthThreshold)))
              + ghosts cfg xs :=
  fun _ hr =>
    have ⟨hrow, hcut⟩ := mem_truthSpace cfg xs hr
    not_found_rows cfg xs hopt hrow (Int.lt_of_lt_of_le hs hcut)

/-- **Conservation.**  `TP + FN = P`, `TN + FP = N`, `P + N = total labels` in every row — for a labels
table and for a label column (with the implicit negatives) alike. -/
theorem conservation (cfg : Cfg) (xs : List Scored) :
    ∀ r ∈ truthSpace cfg xs, r.tp + r.fn = r.p ∧ r.tn + r.fp = r.n ∧ r.p + r.n = r.total :=
  fun _ hr => conservation_rows cfg xs (mem_truthSpace cfg xs hr).1

/-- **Monotonicity.**  `TP` and `FP` are non-increasing in the threshold (and `TN`, `FN` non-decreasing). -/
theorem monotone (cfg : Cfg) (xs : List Scored) :
    ∀ r₁ ∈ truthSpace cfg xs, ∀ r₂ ∈ truthSpace cfg xs, r₁.truthThreshold ≤ r₂.truthThreshold →
      r₂.tp ≤ r₁.tp ∧ r₂.fp ≤ r₁.fp ∧ r₁.tn ≤ r₂.tn ∧ r₁.fn ≤ r₂.fn :=
  fun _ h₁ _ h₂ hle => monotone_rows cfg xs (mem_truthSpace cfg xs h₁).1 (mem_truthSpace cfg xs h₂).1 hle

/-- **One row per score.**  The table has exactly one row for every distinct (adjusted, bucketed) score
of a labelled pair that passes the final `where truth_threshold >= -998`, and no other row. -/
theorem thresholds_exact (cfg : Cfg) (xs : List Scored) :
    ((truthSpace cfg xs).map (·.truthThreshold)).Nodup ∧
    ∀ t, t ∈ (truthSpace cfg xs).map (·.truthThreshold) ↔
      (∃ x ∈ xs, adjScore cfg x = t) ∧ t ≥ cfg.cutoff := by
  have e : (truthSpace cfg xs).map (·.truthThreshold)
      = (distinct (xs.map (adjScore cfg))).filter fun t => decide (t ≥ cfg.cutoff) := by
    rw [← thresholds_eq, truthSpace, List.filter_map]
    rfl
  rw [e]
  refine ⟨(distinct_nodup _).sublist List.filter_sublist, fun t => ?_⟩
  rw [List.mem_filter, mem_distinct, List.mem_map, decide_eq_true_eq]

/-- **Prediction errors, labels table.**  The rows returned are exactly the labelled pairs (with
multiplicity, in order) that are a false positive (`score < t ∧ probability > t`, if requested) or a
false negative (`score > t ∧ probability < t`, if requested) — both tests strict, as coded. -/
theorem errors_exact_table (t : Int) (inclFP inclFN : Bool) (xs : List Scored) :
    (predictionErrorsTable t inclFP inclFN xs).map (·.1)
      = xs.filter fun x =>
          (inclFP && (decide (x.score < t) && decide (x.prob > t))) ||
          (inclFN && (decide (x.score > t) && decide (x.prob < t))) := by
  unfold predictionErrorsTable
  rw [List.map_map]
  exact List.map_id _

/-- `truth_status` is `FP` exactly on the false positives and `FN` exactly on the false negatives of a
returned row; the two classes are disjoint, and a returned row always has a status. -/
theorem error_status (t : Int) (inclFP inclFN : Bool) (xs : List Scored) :
    ∀ x s, (x, s) ∈ predictionErrorsTable t inclFP inclFN xs →
      (s = some Status.fp ↔ (x.score < t ∧ x.prob > t)) ∧
      (s = some Status.fn ↔ (x.score > t ∧ x.prob < t)) ∧ s ≠ none := by
  intro x s h
  obtain ⟨y, hy, heq⟩ := List.mem_map.mp h
  obtain ⟨rfl, rfl⟩ := Prod.mk.inj heq
  have hw := (List.mem_filter.mp hy).2
  have hfp : isFalsePositive t y = true ↔ y.score < t ∧ y.prob > t := by simp [isFalsePositive]
  have hfn : isFalseNegativeTable t y = true ↔ y.score > t ∧ y.prob < t := by simp [isFalseNegativeTable]
  -- a row is not both: `score < t` and `score > t` exclude each other
  have hd : ¬(isFalsePositive t y = true ∧ isFalseNegativeTable t y = true) := by
    rw [hfp, hfn]
    omega
  rw [← hfp, ← hfn]
  -- by cases on the two flags: both set is excluded by `hd`, neither by the filter `hw`; with one set, `s` is its status
  revert hw hd
  cases isFalsePositive t y
  · cases isFalseNegativeTable t y <;> simp
  · cases isFalseNegativeTable t y <;> simp

/-- **Prediction errors, label column.**  As for the table, except that a clerical match the blocking
rules did not find is a false negative whatever its probability. -/
theorem errors_exact_column (t : Int) (inclFP inclFN : Bool) (xs : List Scored) :
    predictionErrorsColumn t inclFP inclFN xs
      = xs.filter fun x =>
          (inclFP && (decide (x.score < t) && decide (x.prob > t))) ||
          (inclFN && (decide (x.score > t) && (decide (x.prob < t) || !x.found))) := by
  unfold predictionErrorsColumn isFalseNegativeColumn isFalsePositive
  simp only [Bool.and_or_distrib_left]

/-- **Either id orientation.**  Writing a label as `(b, a)` instead of `(a, b)` gives the same prepared
pairs: the lower id always ends up on the left, the score travels with the pair. -/
theorem orientation_irrelevant (present : Nat → Nat) (labels : List LabelRow)
    (hne : ∀ row ∈ labels, row.idL ≠ row.idR) :
    blockFromLabels present (labels.map fun row => ⟨row.idR, row.idL, row.score⟩)
      = blockFromLabels present labels := by
  -- `hne` is not used: a label with equal ids is its own mirror image (`lower_swap` holds for all ids)
  unfold blockFromLabels
  rw [List.map_map]
  exact congrArg _ (List.map_congr_left fun row _ => (lower_swap row.idL row.idR row.score).symm)

/-- After `lower_id_to_left_hand_side` the lower id is on the left; the pair and its score are unchanged. -/
theorem lower_id_on_lhs (row : LabelRow) (h : row.idL ≠ row.idR) :
    (lowerIdToLeftHandSide row).idL < (lowerIdToLeftHandSide row).idR ∧
    (lowerIdToLeftHandSide row).score = row.score ∧
    (((lowerIdToLeftHandSide row).idL = row.idL ∧ (lowerIdToLeftHandSide row).idR = row.idR) ∨
     ((lowerIdToLeftHandSide row).idL = row.idR ∧ (lowerIdToLeftHandSide row).idR = row.idL)) := by
  unfold lowerIdToLeftHandSide
  by_cases h1 : row.idL < row.idR
  · simp [h1]
  · have : row.idR < row.idL := by omega
    simp [h1, this]

/-- `found_by_blocking_rules` is TRUE iff the model has no blocking rule or some rule is TRUE (not NULL) on the pair. -/
theorem found_by_blocking_iff (evals : List B3) :
    selectFoundByBlockingRules evals = true ↔ evals = [] ∨ some true ∈ evals := by
  cases evals with
  | nil => simp [selectFoundByBlockingRules]
  | cons e es =>
    simp only [selectFoundByBlockingRules, List.any_eq_true, reduceCtorEq, false_or]
    constructor
    · rintro ⟨x, hx, hc⟩
      cases x with
      | none => simp [B3.coalesceF] at hc
      | some b =>
        simp [B3.coalesceF] at hc
        subst hc
        exact hx
    · intro h
      exact ⟨some true, h, rfl⟩

/-! ### Non-vacuity (keys are small integers; weight bucket = identity; sentinel −999, cut-off −998) -/

private def cfgT : Cfg :=
  { thresholdActual := 5, bucket := id, scoreNotFoundAsZero := true, sentinel := -999, cutoff := -998, totalLabels := none }

/-- Five labels: two tied at weight 3 (one positive, one negative), a positive not found by blocking (→ −999, row dropped),
a negative at −2, a positive at 7. -/
example :
    truthSpace cfgT [⟨10, 3, 0, true⟩, ⟨0, 3, 0, true⟩, ⟨10, 4, 0, false⟩, ⟨2, -2, 0, true⟩, ⟨5, 7, 0, true⟩] =
      [ { truthThreshold := 3, total := 5, p := 3, n := 2, fp := 1, tp := 2, fn := 1, tn := 1 },
        { truthThreshold := -2, total := 5, p := 3, n := 2, fp := 2, tp := 2, fn := 1, tn := 0 },
        { truthThreshold := 7, total := 5, p := 3, n := 2, fp := 0, tp := 1, fn := 2, tn := 2 } ] := by decide +kernel

/-- Label-column mode: the same labels among 10 admissible pairs — 5 implicit negatives, all true negatives. -/
example :
    truthSpace { cfgT with totalLabels := some 10 }
      [⟨10, 3, 0, true⟩, ⟨0, 3, 0, true⟩, ⟨10, 4, 0, false⟩, ⟨2, -2, 0, true⟩, ⟨5, 7, 0, true⟩] =
      [ { truthThreshold := 3, total := 10, p := 3, n := 7, fp := 1, tp := 2, fn := 1, tn := 6 },
        { truthThreshold := -2, total := 10, p := 3, n := 7, fp := 2, tp := 2, fn := 1, tn := 5 },
        { truthThreshold := 7, total := 10, p := 3, n := 7, fp := 0, tp := 1, fn := 2, tn := 7 } ] := by decide +kernel

/-- Errors: score 0 / prob 9 is a FP at t = 5; score 10 / prob 1 a FN; score 5 (= t) and prob 5 (= t) are neither. -/
example :
    predictionErrorsTable 5 true true [⟨0, 0, 9, true⟩, ⟨10, 0, 1, true⟩, ⟨5, 0, 9, true⟩, ⟨10, 0, 5, true⟩] =
      [(⟨0, 0, 9, true⟩, some Status.fp), (⟨10, 0, 1, true⟩, some Status.fn)] := by decide +kernel

end SplinkVerif.C15
