import SplinkVerif.Lemmas.EMSql
import SplinkVerif.Lemmas.EMMBridgeWitness
/-!
# C03 at the level of the emitted SQL: the M-step

`Generated/EMSql.lean` holds the statements `expectation_maximisation.py` emits (T-sql translator, regenerated on every
run): one per-comparison block of `compute_new_parameters_sql` (`countsBlockApc` / `countsBlockRows`), its lambda
block (`lambdaBlockApc` / `lambdaBlockRows`) and `compute_proportions_for_new_parameters_sql` (`proportions`);
`Model/EMSql.lean` assembles them (`mUCounts`: the `UNION ALL` over the comparisons and the lambda block; `mStep`:
`proportions` of it).  The theorems below say, for **every** list of rows of `__splink__df_predict`
(`PRow`: gamma values, `match_probability`, `agreement_pattern_count`), every list of comparison names and both variants,
what these statements return under the SQL semantics `Rel.eval`, and that this is the functional model `Model/EM.lean`
(`mCount`, `uCount`, `lambdaNew`, `observedValues`, `newM`, `newU`) the C03 theorems are about.  A change to any of the
SQL templates changes `Generated/EMSql.lean` and these proofs stop checking.

What the two variants compute: with `useApc = true` every row weighs `agreement_pattern_count`; with `useApc = false`
(the row-wise variant multiplies by the literal `1`) every row weighs 1 and `agreement_pattern_count` is **ignored** —
the two coincide when every count is 1 (`sql_counts_variants_coincide`) and differ in general
(`sql_counts_variants_differ`).

Findings (all proved below):
* `PARTITION BY output_column_name` normalises per *name*, not per comparison: two comparisons with the same
  `output_column_name` share one denominator (`sql_mstep_needs_distinct_names`);
* a comparison literally named `'_probability_two_random_records_match'` is not normalised at all: its rows fail the
  `where` of the first branch and pass the `where` of the second, so its raw counts come out as additional "lambda" rows
  (`sql_mstep_comparison_named_like_lambda`);
* a zero denominator gives NULL (`sql_newM_null_iff`), where the functional model's division returns `x / 0 = 0`; on the
  empty table the result is the single row `(0, lambda name, NULL, NULL)` (`sql_mstep_empty`).

Left out: the translation drops the final `order by output_column_name, comparison_vector_value` of
`compute_proportions_for_new_parameters_sql`, and an engine returns the groups of a `GROUP BY` in no particular order; the
row orders stated below ("in the order of first occurrence") are those of `Rel.eval` on lists.

The statement-by-statement evaluation is in `Lemmas/EMSql.lean`.
-/
namespace SplinkVerif.C03Sql
open SplinkVerif SplinkVerif.Rel SplinkVerif.EMSql
open SplinkVerif.Lemmas.EMSql (lamName gam wt mSpec uSpec mSpecW uSpecW gammaValues divV totalP totalQ totalW CRow encC
  keep denM denU denomMW denomUW sqlNewM sqlNewU lambdaOut Linked countsC)

/-! ### Specification on the abstract rows (definitional unfoldings, for reference) -/

/-- `'_probability_two_random_records_match'` -/
theorem lamName_def : lamName = "_probability_two_random_records_match" := rfl

/-- The gamma value of comparison `ci` of a row, as `predictIn` reads it. -/
theorem gam_def (ci : Nat) (r : PRow) : gam ci r = r.gammas.getD ci 0 := rfl

/-- The weight of a row: `agreement_pattern_count`, or 1 in the row-wise variant. -/
theorem wt_def (useApc : Bool) (r : PRow) : wt useApc r = if useApc then r.count else 1 := rfl

/-- `mSpec rows ci v = Σ p·count` over the rows with `gamma_ci = v`. -/
theorem mSpec_def (rows : List PRow) (ci : Nat) (v : Int) :
    mSpec rows ci v = ((rows.filter fun r => gam ci r == v).map fun r => r.p * (r.count : Rat)).sum := rfl

/-- `uSpec rows ci v = Σ (1−p)·count` over the rows with `gamma_ci = v`. -/
theorem uSpec_def (rows : List PRow) (ci : Nat) (v : Int) :
    uSpec rows ci v = ((rows.filter fun r => gam ci r == v).map fun r => (1 - r.p) * (r.count : Rat)).sum := rfl

/-- The same with the weight of the variant; `mSpecW true = mSpec`. -/
theorem mSpecW_def (useApc : Bool) (rows : List PRow) (ci : Nat) (v : Int) :
    mSpecW useApc rows ci v =
      ((rows.filter fun r => gam ci r == v).map fun r => r.p * (wt useApc r : Rat)).sum := rfl

theorem uSpecW_def (useApc : Bool) (rows : List PRow) (ci : Nat) (v : Int) :
    uSpecW useApc rows ci v =
      ((rows.filter fun r => gam ci r == v).map fun r => (1 - r.p) * (wt useApc r : Rat)).sum := rfl

theorem mSpecW_apc (rows : List PRow) (ci : Nat) (v : Int) : mSpecW true rows ci v = mSpec rows ci v := rfl
theorem uSpecW_apc (rows : List PRow) (ci : Nat) (v : Int) : uSpecW true rows ci v = uSpec rows ci v := rfl

/-- In the row-wise variant `count` is ignored: `Σ p` over the rows with `gamma_ci = v`. -/
theorem mSpecW_rows (rows : List PRow) (ci : Nat) (v : Int) :
    mSpecW false rows ci v = ((rows.filter fun r => gam ci r == v).map fun r => r.p).sum := by
  simp only [mSpecW, Lemmas.EMSql.mul_wt_false]

theorem uSpecW_rows (rows : List PRow) (ci : Nat) (v : Int) :
    uSpecW false rows ci v = ((rows.filter fun r => gam ci r == v).map fun r => 1 - r.p).sum := by
  simp only [uSpecW, Lemmas.EMSql.mul_wt_false]

/-- The distinct gamma values of a comparison in the order of first occurrence (the order `GROUP BY` — `eraseDups` —
returns the groups in). -/
theorem gammaValues_def (rows : List PRow) (ci : Nat) : gammaValues rows ci = (rows.map (gam ci)).eraseDups := rfl

theorem mem_gammaValues (rows : List PRow) (ci : Nat) (v : Int) :
    v ∈ gammaValues rows ci ↔ ∃ r ∈ rows, gam ci r = v :=
  Lemmas.EMSql.mem_gammaValues rows ci v

/-- SQL division of exact numbers: NULL when the divisor is 0. -/
theorem divV_def (a b : Rat) : divV a b = if b = 0 then Val.null else Val.rat (a / b) := rfl

theorem totalP_def (useApc : Bool) (rows : List PRow) :
    totalP useApc rows = (rows.map fun r => r.p * (wt useApc r : Rat)).sum := rfl
theorem totalQ_def (useApc : Bool) (rows : List PRow) :
    totalQ useApc rows = (rows.map fun r => (1 - r.p) * (wt useApc r : Rat)).sum := rfl
theorem totalW_def (useApc : Bool) (rows : List PRow) : totalW useApc rows = (rows.map (wt useApc)).sum := rfl

/-- The table a block reads: `predict_in` = (gamma of comparison `ci`, match_probability, agreement_pattern_count). -/
theorem predictIn_def (rows : List PRow) (ci : Nat) :
    predictIn rows ci = rows.map fun r => [Val.int (gam ci r), Val.rat r.p, Val.int (r.count : Int)] := rfl

/-! ### 1. The counts blocks and the lambda block -/

/-- **Counts block, `agreement_pattern_count` variant.**  For every table and every comparison the block returns, in the
order of first occurrence, one row per distinct gamma value `v` (the value `−1` included):
`(v, Σ p·count, Σ (1−p)·count, name)` over the rows with that gamma. -/
theorem sql_counts_block (rows : List PRow) (ci : Nat) (name : String) :
    (Gen.EMSql.countsBlockApc (Val.str name)).eval (Db.set (fun _ => []) "predict_in" (predictIn rows ci)) =
      (gammaValues rows ci).map fun v =>
        [Val.int v, Val.rat (mSpec rows ci v), Val.rat (uSpec rows ci v), Val.str name] :=
  Lemmas.EMSql.countsBlock_eval true (Lemmas.EMSql.set_predictIn rows ci) name

/-- **Counts block, row-wise variant** (`* 1`): `agreement_pattern_count` is ignored, every row counts once:
`(v, Σ p, Σ (1−p), name)`. -/
theorem sql_counts_block_rows (rows : List PRow) (ci : Nat) (name : String) :
    (Gen.EMSql.countsBlockRows (Val.str name)).eval (Db.set (fun _ => []) "predict_in" (predictIn rows ci)) =
      (gammaValues rows ci).map fun v =>
        [Val.int v, Val.rat (mSpecW false rows ci v), Val.rat (uSpecW false rows ci v), Val.str name] :=
  Lemmas.EMSql.countsBlock_eval false (Lemmas.EMSql.set_predictIn rows ci) name

/-- The two variants coincide when every count is 1 (what the row-wise pipeline feeds). -/
theorem sql_counts_variants_coincide (rows : List PRow) (h : ∀ r ∈ rows, r.count = 1) (ci : Nat) (name : String) :
    (Gen.EMSql.countsBlockRows (Val.str name)).eval (Db.set (fun _ => []) "predict_in" (predictIn rows ci)) =
      (Gen.EMSql.countsBlockApc (Val.str name)).eval (Db.set (fun _ => []) "predict_in" (predictIn rows ci)) := by
  rw [sql_counts_block_rows, sql_counts_block]
  apply List.map_congr_left
  intro v _
  -- whatever the summand, the weight 1 of the row-wise variant is the count
  have hw : ∀ f : PRow → Rat, ((rows.filter fun r => gam ci r == v).map fun r => f r * (wt false r : Rat)).sum =
      ((rows.filter fun r => gam ci r == v).map fun r => f r * (r.count : Rat)).sum := fun f =>
    congrArg List.sum (List.map_congr_left fun r hr =>
      congrArg (fun n : Nat => f r * (n : Rat)) (h r (List.mem_filter.mp hr).1).symm)
  rw [show mSpecW false rows ci v = mSpec rows ci v from hw (·.p),
    show uSpecW false rows ci v = uSpec rows ci v from hw (1 - ·.p)]

/-- … and not in general: with a count of 2 the row-wise block returns `Σ p = 1/2` where the other returns `Σ p·count = 1`. -/
theorem sql_counts_variants_differ :
    (Gen.EMSql.countsBlockRows (Val.str "a")).eval (Db.set (fun _ => []) "predict_in" (predictIn [⟨[0], 1/2, 2⟩] 0)) =
      [[Val.int 0, Val.rat (1/2), Val.rat (1/2), Val.str "a"]] ∧
    (Gen.EMSql.countsBlockApc (Val.str "a")).eval (Db.set (fun _ => []) "predict_in" (predictIn [⟨[0], 1/2, 2⟩] 0)) =
      [[Val.int 0, Val.rat 1, Val.rat 1, Val.str "a"]] := by decide +kernel

/-- **Lambda block, `agreement_pattern_count` variant**, on every table: one row
`(0, Σ p·count / Σ count, Σ (1−p)·count / Σ count, '_probability_two_random_records_match')`, the two quotients NULL when
`Σ count = 0` (in particular on the empty table, where the three sums are NULL). -/
theorem sql_lambda_block (rows : List PRow) (ci : Nat) :
    Gen.EMSql.lambdaBlockApc.eval (Db.set (fun _ => []) "predict_in" (predictIn rows ci)) =
      [[Val.int 0, divV (totalP true rows) (totalW true rows), divV (totalQ true rows) (totalW true rows),
        Val.str "_probability_two_random_records_match"]] :=
  Lemmas.EMSql.lambdaBlock_eval true (Lemmas.EMSql.set_predictIn rows ci)

/-- With a positive total count the lambda row holds numbers. -/
theorem sql_lambda_block_pos (rows : List PRow) (ci : Nat) (hpos : 0 < (rows.map (·.count)).sum) :
    Gen.EMSql.lambdaBlockApc.eval (Db.set (fun _ => []) "predict_in" (predictIn rows ci)) =
      [[Val.int 0,
        Val.rat ((rows.map fun r => r.p * (r.count : Rat)).sum / ((rows.map (·.count)).sum : Nat)),
        Val.rat ((rows.map fun r => (1 - r.p) * (r.count : Rat)).sum / ((rows.map (·.count)).sum : Nat)),
        Val.str "_probability_two_random_records_match"]] := by
  have hne : ((totalW true rows : Nat) : Rat) ≠ 0 := Nat.cast_ne_zero.mpr hpos.ne'
  rw [sql_lambda_block, Lemmas.EMSql.divV_of_ne hne, Lemmas.EMSql.divV_of_ne hne]
  rfl

/-- When the total count is 0 — no row, or only rows with `agreement_pattern_count = 0` — the lambda row is
`(0, NULL, NULL, name)`. -/
theorem sql_lambda_block_zero (rows : List PRow) (ci : Nat) (hz : (rows.map (·.count)).sum = 0) :
    Gen.EMSql.lambdaBlockApc.eval (Db.set (fun _ => []) "predict_in" (predictIn rows ci)) =
      [[Val.int 0, Val.null, Val.null, Val.str "_probability_two_random_records_match"]] := by
  rw [sql_lambda_block, show totalW true rows = 0 from hz, Nat.cast_zero, Lemmas.EMSql.divV_zero,
    Lemmas.EMSql.divV_zero]

/-- **Lambda block, row-wise variant**: `sum(1)` is the number of rows; `(0, Σ p / n, Σ (1−p) / n, name)`. -/
theorem sql_lambda_block_rows (rows : List PRow) (ci : Nat) :
    Gen.EMSql.lambdaBlockRows.eval (Db.set (fun _ => []) "predict_in" (predictIn rows ci)) =
      [[Val.int 0, divV ((rows.map (·.p)).sum) (rows.length : Rat), divV ((rows.map fun r => 1 - r.p).sum) (rows.length : Rat),
        Val.str "_probability_two_random_records_match"]] := by
  have hW : totalW false rows = rows.length := by
    show (rows.map fun _ => 1).sum = _
    simp
  have hP : totalP false rows = (rows.map (·.p)).sum := by simp only [totalP, Lemmas.EMSql.mul_wt_false]
  have hQ : totalQ false rows = (rows.map fun r => 1 - r.p).sum := by simp only [totalQ, Lemmas.EMSql.mul_wt_false]
  rw [← hW, ← hP, ← hQ]
  exact Lemmas.EMSql.lambdaBlock_eval false (Lemmas.EMSql.set_predictIn rows ci)

/-- Both lambda blocks on the empty table: `(0, NULL, NULL, name)`. -/
theorem sql_lambda_block_empty (ci : Nat) :
    Gen.EMSql.lambdaBlockApc.eval (Db.set (fun _ => []) "predict_in" (predictIn [] ci)) =
      [[Val.int 0, Val.null, Val.null, Val.str "_probability_two_random_records_match"]] ∧
    Gen.EMSql.lambdaBlockRows.eval (Db.set (fun _ => []) "predict_in" (predictIn [] ci)) =
      [[Val.int 0, Val.null, Val.null, Val.str "_probability_two_random_records_match"]] :=
  ⟨sql_lambda_block_zero [] ci rfl, by
    rw [sql_lambda_block_rows, List.length_nil, Nat.cast_zero, Lemmas.EMSql.divV_zero, Lemmas.EMSql.divV_zero]⟩

/-- **`__splink__m_u_counts`**: the blocks of the comparisons in order, then the lambda row. -/
theorem sql_m_u_counts (useApc : Bool) (names : List String) (rows : List PRow) :
    mUCounts useApc names rows =
      ((List.range names.length).flatMap fun ci => (gammaValues rows ci).map fun v =>
        [Val.int v, Val.rat (mSpecW useApc rows ci v), Val.rat (uSpecW useApc rows ci v),
          Val.str (names.getD ci "")]) ++
      [[Val.int 0, divV (totalP useApc rows) (totalW useApc rows), divV (totalQ useApc rows) (totalW useApc rows),
        Val.str "_probability_two_random_records_match"]] := by
  rw [Lemmas.EMSql.mUCounts_eval]
  unfold countsC Lemmas.EMSql.blockC
  simp only [List.map_flatMap, List.map_map]
  rfl

/-! ### 2. `compute_proportions_for_new_parameters_sql` -/

/-- A counts-table row `(comparison_vector_value, m_count, u_count, output_column_name)`. -/
theorem encC_def (c : CRow) : encC c = [Val.int c.v, Val.rat c.m, Val.rat c.u, Val.str c.name] := rfl

/-- `where comparison_vector_value != -1 and output_column_name != '_probability_two_random_records_match'` -/
theorem keep_def (c : CRow) : keep c = (c.v != -1 && c.name != "_probability_two_random_records_match") := rfl

/-- `sum(m_count) over (partition by output_column_name)`: over the rows of that name with value `≠ −1`. -/
theorem denM_def (L : List CRow) (nm : String) :
    denM L nm = ((L.filter fun c => c.v != -1 && c.name == nm).map (·.m)).sum := rfl

theorem denU_def (L : List CRow) (nm : String) :
    denU L nm = ((L.filter fun c => c.v != -1 && c.name == nm).map (·.u)).sum := rfl

/-- **Proportions.**  On every counts table whose rows are `(int v, rat m, rat u, str name)` the statement returns, in
table order, for every row with `v ≠ −1` and `name ≠ '_probability_two_random_records_match'` the row
`(v, name, m / Σ m, u / Σ u)` — sums over the rows of the same name with `v ≠ −1`; NULL when that sum is 0 — followed by
the rows named `'_probability_two_random_records_match'` unchanged (columns reordered). -/
theorem sql_proportions (L : List CRow) :
    proportions (L.map fun c => [Val.int c.v, Val.rat c.m, Val.rat c.u, Val.str c.name]) =
      ((L.filter fun c => c.v != -1 && c.name != "_probability_two_random_records_match").map fun c =>
        [Val.int c.v, Val.str c.name, divV c.m (denM L c.name), divV c.u (denU L c.name)]) ++
      ((L.filter fun c => c.name == "_probability_two_random_records_match").map fun c =>
        [Val.int c.v, Val.str c.name, Val.rat c.m, Val.rat c.u]) := by
  have h := Lemmas.EMSql.proportions_eval L [] fun _ h => nomatch h
  rwa [List.append_nil, List.map_nil, List.append_nil] at h

/-- The same with further rows `B` named `'_probability_two_random_records_match'` whose other columns are arbitrary
(the lambda block returns NULLs on an empty table): they are dropped by the first branch whatever their first column
is, and returned by the second. -/
theorem sql_proportions_with_lambda_rows (L : List CRow) (B : List Row)
    (hB : ∀ r ∈ B, r.getD 3 Val.null = Val.str "_probability_two_random_records_match") :
    proportions (L.map encC ++ B) =
      ((L.filter keep).map fun c =>
        [Val.int c.v, Val.str c.name, divV c.m (denM L c.name), divV c.u (denU L c.name)]) ++
      ((L.map encC ++ B).filter fun r => r.getD 3 Val.null == Val.str "_probability_two_random_records_match").map
        fun r => [r.getD 0 Val.null, r.getD 3 Val.null, r.getD 1 Val.null, r.getD 2 Val.null] := by
  show _ = (L.filter keep).map (Lemmas.EMSql.propRow L) ++
    ((L.map encC ++ B).filter fun r => r.getD 3 Val.null == Val.str lamName).map Lemmas.EMSql.lamOut
  rw [Lemmas.EMSql.filter_lam L B hB, List.map_append, List.map_map]
  exact Lemmas.EMSql.proportions_eval L B hB

/-- Division by a zero window sum is NULL, not an error and not 0. -/
theorem sql_proportions_zero_denominator :
    proportions [[Val.int 0, Val.rat 0, Val.rat 2, Val.str "a"], [Val.int 1, Val.rat 0, Val.rat 6, Val.str "a"]] =
      [[Val.int 0, Val.str "a", Val.null, Val.rat (1/4)], [Val.int 1, Val.str "a", Val.null, Val.rat (3/4)]] := by
  decide +kernel

/-! ### 2'. The M-step: `proportions` of `__splink__m_u_counts` -/

/-- The denominator of comparison `ci`: `Σ mSpecW` over its observed values other than `−1`. -/
theorem denomMW_def (useApc : Bool) (rows : List PRow) (ci : Nat) :
    denomMW useApc rows ci = (((gammaValues rows ci).filter (· != -1)).map (mSpecW useApc rows ci)).sum := rfl

theorem denomUW_def (useApc : Bool) (rows : List PRow) (ci : Nat) :
    denomUW useApc rows ci = (((gammaValues rows ci).filter (· != -1)).map (uSpecW useApc rows ci)).sum := rfl

/-- … which is the sum over the rows whose gamma is not `−1`. -/
theorem denomMW_rows (useApc : Bool) (rows : List PRow) (ci : Nat) :
    denomMW useApc rows ci = ((rows.filter fun r => gam ci r != -1).map fun r => r.p * (wt useApc r : Rat)).sum :=
  Lemmas.EMSql.sum_observed_groups rows ci _

theorem denomUW_rows (useApc : Bool) (rows : List PRow) (ci : Nat) :
    denomUW useApc rows ci =
      ((rows.filter fun r => gam ci r != -1).map fun r => (1 - r.p) * (wt useApc r : Rat)).sum :=
  Lemmas.EMSql.sum_observed_groups rows ci _

/-- The new `m` / `u` of value `v` of comparison `ci` as SQL values. -/
theorem sqlNewM_def (useApc : Bool) (rows : List PRow) (ci : Nat) (v : Int) :
    sqlNewM useApc rows ci v = divV (mSpecW useApc rows ci v) (denomMW useApc rows ci) := rfl

theorem sqlNewU_def (useApc : Bool) (rows : List PRow) (ci : Nat) (v : Int) :
    sqlNewU useApc rows ci v = divV (uSpecW useApc rows ci v) (denomUW useApc rows ci) := rfl

/-- The counts table before encoding: comparison by comparison, value by value. -/
theorem countsC_def (useApc : Bool) (names : List String) (rows : List PRow) :
    countsC useApc names rows = (List.range names.length).flatMap fun ci => (gammaValues rows ci).map fun v =>
      ⟨v, mSpecW useApc rows ci v, uSpecW useApc rows ci v, names.getD ci ""⟩ := rfl

/-- **The M-step SQL** without any hypothesis on the names: the normalisation is per *name* (`denM` over the whole
counts table), and counts rows named like the lambda row are passed through unnormalised. -/
theorem sql_mstep_any_names (useApc : Bool) (names : List String) (rows : List PRow) :
    mStep useApc names rows =
      (((countsC useApc names rows).filter keep).map fun c =>
        [Val.int c.v, Val.str c.name, divV c.m (denM (countsC useApc names rows) c.name),
          divV c.u (denU (countsC useApc names rows) c.name)]) ++
      (((countsC useApc names rows).filter fun c => c.name == "_probability_two_random_records_match").map
        fun c => [Val.int c.v, Val.str c.name, Val.rat c.m, Val.rat c.u]) ++
      [[Val.int 0, Val.str "_probability_two_random_records_match",
        divV (totalP useApc rows) (totalW useApc rows), divV (totalQ useApc rows) (totalW useApc rows)]] := by
  unfold mStep
  rw [Lemmas.EMSql.mUCounts_eval, Lemmas.EMSql.proportions_eval _ [Lemmas.EMSql.lambdaRow useApc rows]
    fun r hr => List.mem_singleton.mp hr ▸ rfl, List.append_assoc]
  rfl

/-- **The M-step SQL.**  When the comparison names are pairwise distinct and none is
`'_probability_two_random_records_match'`, then for every table, both variants: comparison by comparison, for every
observed gamma value `v ≠ −1` in the order of first occurrence, the row
`(v, name_ci, mSpec ci v / Σ_{v' observed, v' ≠ −1} mSpec ci v', uSpec ci v / Σ …)` — NULL for a zero denominator — and
last the lambda row `(0, lambda name, Σ p·w / Σ w, Σ (1−p)·w / Σ w)`. -/
theorem sql_mstep (useApc : Bool) (names : List String) (rows : List PRow) (hnd : names.Nodup)
    (hlam : "_probability_two_random_records_match" ∉ names) :
    mStep useApc names rows =
      ((List.range names.length).flatMap fun ci => ((gammaValues rows ci).filter (· != -1)).map fun v =>
        [Val.int v, Val.str (names.getD ci ""),
          divV (mSpecW useApc rows ci v) (denomMW useApc rows ci),
          divV (uSpecW useApc rows ci v) (denomUW useApc rows ci)]) ++
      [[Val.int 0, Val.str "_probability_two_random_records_match",
        divV (totalP useApc rows) (totalW useApc rows), divV (totalQ useApc rows) (totalW useApc rows)]] := by
  have hname : ∀ ci ∈ List.range names.length, (names.getD ci "" != lamName) = true := fun ci hci =>
    bne_iff_ne.mpr fun h => hlam (show lamName ∈ names from h ▸ Lemmas.Lists.getD_mem names "" hci)
  have hblock : ∀ (p : CRow → Bool), (countsC useApc names rows).filter p =
      (List.range names.length).flatMap fun ci => (Lemmas.EMSql.blockC useApc names rows ci).filter p :=
    fun p => List.filter_flatMap
  -- no counts row is named like the lambda row
  have h2 : ((countsC useApc names rows).filter fun c => c.name == "_probability_two_random_records_match") = [] :=
    List.filter_eq_nil_iff.mpr fun c hc h => by
      obtain ⟨ci, hci, hc⟩ := List.mem_flatMap.mp hc
      obtain ⟨v, _, rfl⟩ := List.mem_map.mp hc
      exact bne_iff_ne.mp (hname ci hci) (beq_iff_eq.mp h)
  rw [sql_mstep_any_names, h2, List.map_nil, List.append_nil, hblock, List.map_flatMap]
  congr 1
  apply List.flatMap_congr
  intro ci hci
  rw [show keep = fun c => c.v != -1 && c.name != lamName from rfl,
    Lemmas.EMSql.filter_blockC useApc names rows ci (· != lamName), if_pos (hname ci hci), List.map_map]
  exact List.map_congr_left fun v _ => Lemmas.EMSql.propRow_countsC useApc names rows hnd ci (List.mem_range.mp hci) v

/-- The example table: two comparisons; gamma `−1` occurs in the first. -/
def exRows : List PRow := [⟨[0, 1], 1/2, 2⟩, ⟨[1, 1], 1/4, 1⟩, ⟨[-1, 0], 3/4, 3⟩, ⟨[0, 0], 1/3, 1⟩]

/-- Non-vacuity: `__splink__m_u_counts` of the example (the group `−1` is present), and the M-step in both variants (the
group `−1` is gone and does not count in the denominators: `16/19 + 3/19 = 1`). -/
example :
    mUCounts true ["a", "b"] exRows =
      [[Val.int 0, Val.rat (4/3), Val.rat (5/3), Val.str "a"], [Val.int 1, Val.rat (1/4), Val.rat (3/4), Val.str "a"],
       [Val.int (-1), Val.rat (9/4), Val.rat (3/4), Val.str "a"],
       [Val.int 1, Val.rat (5/4), Val.rat (7/4), Val.str "b"], [Val.int 0, Val.rat (31/12), Val.rat (17/12), Val.str "b"],
       [Val.int 0, Val.rat (23/42), Val.rat (19/42), Val.str "_probability_two_random_records_match"]] ∧
    mStep true ["a", "b"] exRows =
      [[Val.int 0, Val.str "a", Val.rat (16/19), Val.rat (20/29)], [Val.int 1, Val.str "a", Val.rat (3/19), Val.rat (9/29)],
       [Val.int 1, Val.str "b", Val.rat (15/46), Val.rat (21/38)], [Val.int 0, Val.str "b", Val.rat (31/46), Val.rat (17/38)],
       [Val.int 0, Val.str "_probability_two_random_records_match", Val.rat (23/42), Val.rat (19/42)]] ∧
    mStep false ["a", "b"] exRows =
      [[Val.int 0, Val.str "a", Val.rat (10/13), Val.rat (14/23)], [Val.int 1, Val.str "a", Val.rat (3/13), Val.rat (9/23)],
       [Val.int 1, Val.str "b", Val.rat (9/22), Val.rat (15/26)], [Val.int 0, Val.str "b", Val.rat (13/22), Val.rat (11/26)],
       [Val.int 0, Val.str "_probability_two_random_records_match", Val.rat (11/24), Val.rat (13/24)]] ∧
    ["a", "b"].Nodup ∧ "_probability_two_random_records_match" ∉ ["a", "b"] := by decide +kernel

/-- **The hypothesis "names pairwise distinct" is necessary** — a finding about the SQL: `PARTITION BY
output_column_name` merges two comparisons with the same `output_column_name`.  On the example with both comparisons
named `"a"` the four rows share the denominators `65/12` and `67/12` (first `m`: `16/65` instead of `16/19`), so the
right-hand side of `sql_mstep` is not what the SQL returns. -/
theorem sql_mstep_needs_distinct_names :
    mStep true ["a", "a"] exRows =
      [[Val.int 0, Val.str "a", Val.rat (16/65), Val.rat (20/67)], [Val.int 1, Val.str "a", Val.rat (3/65), Val.rat (9/67)],
       [Val.int 1, Val.str "a", Val.rat (3/13), Val.rat (21/67)], [Val.int 0, Val.str "a", Val.rat (31/65), Val.rat (17/67)],
       [Val.int 0, Val.str "_probability_two_random_records_match", Val.rat (23/42), Val.rat (19/42)]] ∧
    mStep true ["a", "a"] exRows ≠
      ((List.range 2).flatMap fun ci => ((gammaValues exRows ci).filter (· != -1)).map fun v =>
        [Val.int v, Val.str (["a", "a"].getD ci ""),
          divV (mSpecW true exRows ci v) (denomMW true exRows ci),
          divV (uSpecW true exRows ci v) (denomUW true exRows ci)]) ++
      [[Val.int 0, Val.str "_probability_two_random_records_match",
        divV (totalP true exRows) (totalW true exRows), divV (totalQ true exRows) (totalW true exRows)]] := by
  decide +kernel

/-- **The hypothesis "no comparison is named like the lambda row" is necessary** — a finding about the SQL: the rows of
a comparison named `'_probability_two_random_records_match'` fail the first branch's `where` and pass the second's, so
its *raw counts* (`5/4`, `31/12`: not probabilities) are returned as two more rows under the lambda name, next to the
real lambda row; no proportion is computed for it. -/
theorem sql_mstep_comparison_named_like_lambda :
    mStep true ["a", "_probability_two_random_records_match"] exRows =
      [[Val.int 0, Val.str "a", Val.rat (16/19), Val.rat (20/29)], [Val.int 1, Val.str "a", Val.rat (3/19), Val.rat (9/29)],
       [Val.int 1, Val.str "_probability_two_random_records_match", Val.rat (5/4), Val.rat (7/4)],
       [Val.int 0, Val.str "_probability_two_random_records_match", Val.rat (31/12), Val.rat (17/12)],
       [Val.int 0, Val.str "_probability_two_random_records_match", Val.rat (23/42), Val.rat (19/42)]] := by
  decide +kernel

/-- On the empty table the M-step returns the single row `(0, lambda name, NULL, NULL)`, whatever the comparisons. -/
theorem sql_mstep_empty (useApc : Bool) (names : List String) :
    mStep useApc names [] = [[Val.int 0, Val.str "_probability_two_random_records_match", Val.null, Val.null]] := by
  have hc : countsC useApc names [] = [] := List.flatMap_eq_nil_iff.mpr fun _ _ => rfl
  rw [sql_mstep_any_names, hc]
  rfl

/-- The new `m` of a value is NULL exactly when the denominator `Σ mSpecW` is 0 (for instance when every
`match_probability` is 0), and a number otherwise. -/
theorem sql_newM_null_iff (useApc : Bool) (rows : List PRow) (ci : Nat) (v : Int) :
    sqlNewM useApc rows ci v = Val.null ↔ denomMW useApc rows ci = 0 :=
  Lemmas.EMSql.divV_eq_null

theorem sql_newU_null_iff (useApc : Bool) (rows : List PRow) (ci : Nat) (v : Int) :
    sqlNewU useApc rows ci v = Val.null ↔ denomUW useApc rows ci = 0 :=
  Lemmas.EMSql.divV_eq_null

/-- Non-vacuity of the NULLs: all probabilities 0 ⇒ NULL `m_probability`; only gamma `−1` ⇒ no row but the lambda row;
all counts 0 ⇒ NULL everywhere. -/
example :
    mStep true ["a"] [⟨[0], 0, 1⟩, ⟨[1], 0, 1⟩] =
      [[Val.int 0, Val.str "a", Val.null, Val.rat (1/2)], [Val.int 1, Val.str "a", Val.null, Val.rat (1/2)],
       [Val.int 0, Val.str "_probability_two_random_records_match", Val.rat 0, Val.rat 1]] ∧
    mStep true ["a"] [⟨[-1], 1/2, 1⟩] =
      [[Val.int 0, Val.str "_probability_two_random_records_match", Val.rat (1/2), Val.rat (1/2)]] ∧
    mStep true ["a"] [⟨[0], 1/2, 0⟩] =
      [[Val.int 0, Val.str "a", Val.null, Val.null],
       [Val.int 0, Val.str "_probability_two_random_records_match", Val.null, Val.null]] := by decide +kernel

/-! ### 3. Link to the functional model `Model/EM.lean` at `ℝ`

`Linked useApc θ ci row r`: the SQL row `row` is the image of the model row `r` under the parameters `θ`. Rows for
which comparison `ci` assigns no level (`gammaAt = none`) have no image: the relation requires `some`. -/

/-- The relation between a row of `__splink__df_predict` and a row of the functional model. -/
theorem linked_def (useApc : Bool) (θ : EM.Params ℝ) (ci : Nat) (row : PRow) (r : EM.Row ℝ) :
    Linked useApc θ ci row r ↔
      (((row.p : ℚ) : ℝ) = EM.eProb θ r ∧ row.count = r.count ∧ (useApc = false → row.count = 1) ∧
        EM.gammaAt θ r ci = some (row.gammas.getD ci 0)) := Iff.rfl

/-- Index form: lists of the same length, related position by position. -/
theorem linked_of_index (useApc : Bool) (θ : EM.Params ℝ) (ci : Nat) (rows : List PRow) (rs : List (EM.Row ℝ))
    (hlen : rows.length = rs.length)
    (h : ∀ (i : Nat) (h₁ : i < rows.length) (h₂ : i < rs.length), Linked useApc θ ci rows[i] rs[i]) :
    List.Forall₂ (Linked useApc θ ci) rows rs :=
  List.forall₂_iff_get.mpr ⟨hlen, fun i h₁ h₂ => by simpa using h i h₁ h₂⟩

/-- **`m_count` of the SQL is `EM.mCount`** (either variant; in the row-wise one the relation says the counts are 1). -/
theorem sql_mcount_model {useApc : Bool} {θ : EM.Params ℝ} {ci : Nat} {rows : List PRow} {rs : List (EM.Row ℝ)}
    (h : List.Forall₂ (Linked useApc θ ci) rows rs) (v : Int) :
    ((mSpecW useApc rows ci v : ℚ) : ℝ) = EM.mCount θ rs ci v := by
  rw [Lemmas.EM.mCount_eq]
  exact Lemmas.EMSql.cast_sum_filter h _ _ _ _ (Lemmas.EMSql.linked_pred v) Lemmas.EMSql.linked_m

/-- **`u_count` of the SQL is `EM.uCount`.** -/
theorem sql_ucount_model {useApc : Bool} {θ : EM.Params ℝ} {ci : Nat} {rows : List PRow} {rs : List (EM.Row ℝ)}
    (h : List.Forall₂ (Linked useApc θ ci) rows rs) (v : Int) :
    ((uSpecW useApc rows ci v : ℚ) : ℝ) = EM.uCount θ rs ci v := by
  rw [Lemmas.EM.uCount_eq]
  exact Lemmas.EMSql.cast_sum_filter h _ _ _ _ (Lemmas.EMSql.linked_pred v) Lemmas.EMSql.linked_u

/-- In the `agreement_pattern_count` variant: `mSpec` / `uSpec` themselves. -/
theorem sql_counts_model {θ : EM.Params ℝ} {ci : Nat} {rows : List PRow} {rs : List (EM.Row ℝ)}
    (h : List.Forall₂ (Linked true θ ci) rows rs) (v : Int) :
    ((mSpec rows ci v : ℚ) : ℝ) = EM.mCount θ rs ci v ∧ ((uSpec rows ci v : ℚ) : ℝ) = EM.uCount θ rs ci v :=
  ⟨sql_mcount_model h v, sql_ucount_model h v⟩

/-- **The lambda of the SQL is `EM.lambdaNew`**: when the total weight is not 0 the lambda row holds the numbers `q`,
`q'` with `q = lambdaNew` and `q' = 1 − lambdaNew` (when it is 0 the SQL holds NULLs — `sql_lambda_block_zero` — and the
model `0 / 0 = 0`). -/
theorem sql_lambda_model {useApc : Bool} {θ : EM.Params ℝ} {ci : Nat} {rows : List PRow} {rs : List (EM.Row ℝ)}
    (h : List.Forall₂ (Linked useApc θ ci) rows rs) (hw : totalW useApc rows ≠ 0) :
    ∃ q q' : ℚ, lambdaOut useApc rows =
        [Val.int 0, Val.str "_probability_two_random_records_match", Val.rat q, Val.rat q'] ∧
      (q : ℝ) = EM.lambdaNew θ rs ∧ (q' : ℝ) = 1 - EM.lambdaNew θ rs := by
  have hne : ((totalW useApc rows : Nat) : ℚ) ≠ 0 := Nat.cast_ne_zero.mpr hw
  refine ⟨totalP useApc rows / (totalW useApc rows : ℚ), totalQ useApc rows / (totalW useApc rows : ℚ), ?_,
    Lemmas.EMSql.lambda_cast h, ?_⟩
  · rw [← Lemmas.EMSql.divV_of_ne hne, ← Lemmas.EMSql.divV_of_ne hne]
    rfl
  · rw [← Lemmas.EMSql.lambda_cast h, Lemmas.EMSql.totalQ_eq, sub_div, div_self hne, Rat.cast_sub, Rat.cast_one]

/-- … hence the prior after `EM.step` (session flag `fixLambda` off). -/
theorem sql_lambda_is_step_prior {useApc : Bool} {θ : EM.Params ℝ} {ci : Nat} {rows : List PRow}
    {rs : List (EM.Row ℝ)} (h : List.Forall₂ (Linked useApc θ ci) rows rs) (hw : totalW useApc rows ≠ 0)
    (sess : EM.Session) (hfix : sess.fixLambda = false) :
    ∃ q q' : ℚ, lambdaOut useApc rows =
        [Val.int 0, Val.str "_probability_two_random_records_match", Val.rat q, Val.rat q'] ∧
      (q : ℝ) = (EM.step sess θ rs).prior := by
  obtain ⟨q, q', h1, h2, _⟩ := sql_lambda_model h hw
  refine ⟨q, q', h1, h2.trans ?_⟩
  simp [EM.step, hfix]

/-- **The groups that survive the `where` are `EM.observedValues`**, in the same order. -/
theorem sql_observed_values_model {useApc : Bool} {θ : EM.Params ℝ} {ci : Nat} {rows : List PRow}
    {rs : List (EM.Row ℝ)} (h : List.Forall₂ (Linked useApc θ ci) rows rs) :
    EM.observedValues θ rs ci = (gammaValues rows ci).filter (· != -1) := by
  unfold EM.observedValues gammaValues
  rw [Lemmas.EMSql.filterMap_gamma h, Lemmas.Lists.eraseDups_filter]

/-- The denominators are `EM.denomM` / `EM.denomU`. -/
theorem sql_denominators_model {useApc : Bool} {θ : EM.Params ℝ} {ci : Nat} {rows : List PRow}
    {rs : List (EM.Row ℝ)} (h : List.Forall₂ (Linked useApc θ ci) rows rs) :
    ((denomMW useApc rows ci : ℚ) : ℝ) = EM.denomM θ rs ci ∧ ((denomUW useApc rows ci : ℚ) : ℝ) = EM.denomU θ rs ci := by
  -- both sides sum over the same list of values
  have hsum : ∀ {F : Int → ℚ} {G : Int → ℝ}, (∀ v, ((F v : ℚ) : ℝ) = G v) →
      (((((gammaValues rows ci).filter (· != -1)).map F).sum : ℚ) : ℝ) = ((EM.observedValues θ rs ci).map G).sum := by
    intro F G hFG
    rw [sql_observed_values_model h, Rat.cast_list_sum, List.map_map]
    exact congrArg List.sum (List.map_congr_left fun v _ => hFG v)
  exact ⟨(hsum (sql_mcount_model h)).trans (Lemmas.EM.denomM_eq θ rs ci).symm,
    (hsum (sql_ucount_model h)).trans (Lemmas.EM.denomU_eq θ rs ci).symm⟩

/-- **The SQL's new `m` and `u` are `EM.newM` and `EM.newU`** as numbers, without a case distinction (`x / 0 = 0` on
both sides). -/
theorem sql_newM_model_num {useApc : Bool} {θ : EM.Params ℝ} {ci : Nat} {rows : List PRow} {rs : List (EM.Row ℝ)}
    (h : List.Forall₂ (Linked useApc θ ci) rows rs) (v : Int) (hv : v ∈ EM.observedValues θ rs ci) :
    EM.newM θ rs ci v = some ((mSpecW useApc rows ci v / denomMW useApc rows ci : ℚ) : ℝ) ∧
    EM.newU θ rs ci v = some ((uSpecW useApc rows ci v / denomUW useApc rows ci : ℚ) : ℝ) :=
  ⟨by rw [Lemmas.EM.newM_of_mem θ rs ci v hv, Rat.cast_div, sql_mcount_model h, (sql_denominators_model h).1],
    by rw [Lemmas.EM.newU_of_mem θ rs ci v hv, Rat.cast_div, sql_ucount_model h, (sql_denominators_model h).2]⟩

/-- **The SQL's new `m` is `EM.newM`** as SQL values: for an observed value `v ≠ −1`, if the SQL value is a number `q`
(it is unless the denominator is 0, `sql_newM_null_iff`) then `EM.newM θ rs ci v = some q`. -/
theorem sql_newM_model {useApc : Bool} {θ : EM.Params ℝ} {ci : Nat} {rows : List PRow} {rs : List (EM.Row ℝ)}
    (h : List.Forall₂ (Linked useApc θ ci) rows rs) (v : Int) (hv : v ∈ EM.observedValues θ rs ci) (q : ℚ)
    (hq : sqlNewM useApc rows ci v = Val.rat q) : EM.newM θ rs ci v = some (q : ℝ) := by
  rw [(sql_newM_model_num h v hv).1, (Lemmas.EMSql.divV_eq_rat hq).2]

theorem sql_newU_model {useApc : Bool} {θ : EM.Params ℝ} {ci : Nat} {rows : List PRow} {rs : List (EM.Row ℝ)}
    (h : List.Forall₂ (Linked useApc θ ci) rows rs) (v : Int) (hv : v ∈ EM.observedValues θ rs ci) (q : ℚ)
    (hq : sqlNewU useApc rows ci v = Val.rat q) : EM.newU θ rs ci v = some (q : ℝ) := by
  rw [(sql_newM_model_num h v hv).2, (Lemmas.EMSql.divV_eq_rat hq).2]

/-- A value that is not observed (or is `−1`) has no row in the SQL result and `none` in the model (the `KeyError` ⇒
`LEVEL_NOT_OBSERVED` case of `populate_m_u_from_lookup`). -/
theorem sql_unobserved_model {useApc : Bool} {θ : EM.Params ℝ} {ci : Nat} {rows : List PRow} {rs : List (EM.Row ℝ)}
    (h : List.Forall₂ (Linked useApc θ ci) rows rs) (v : Int) (hv : v ∉ (gammaValues rows ci).filter (· != -1)) :
    EM.newM θ rs ci v = none ∧ EM.newU θ rs ci v = none := by
  rw [← sql_observed_values_model h] at hv
  exact ⟨Lemmas.EM.newM_of_not_mem θ rs ci v hv, Lemmas.EM.newU_of_not_mem θ rs ci v hv⟩

/-- **The M-step SQL indexed by the model**: names pairwise distinct and different from the lambda name, every
comparison linked — the result is, comparison by comparison, one row `(v, name_ci, new m, new u)` per
`v ∈ EM.observedValues θ rs ci` in that order, then the lambda row. -/
theorem sql_mstep_model (useApc : Bool) (names : List String) (rows : List PRow) (hnd : names.Nodup)
    (hlam : "_probability_two_random_records_match" ∉ names) (θ : EM.Params ℝ) (rs : List (EM.Row ℝ))
    (h : ∀ ci, ci < names.length → List.Forall₂ (Linked useApc θ ci) rows rs) :
    mStep useApc names rows =
      ((List.range names.length).flatMap fun ci => (EM.observedValues θ rs ci).map fun v =>
        [Val.int v, Val.str (names.getD ci ""), sqlNewM useApc rows ci v, sqlNewU useApc rows ci v]) ++
      [lambdaOut useApc rows] := by
  rw [sql_mstep useApc names rows hnd hlam]
  congr 1
  apply List.flatMap_congr
  intro ci hci
  rw [sql_observed_values_model (h ci (List.mem_range.mp hci))]
  rfl

/-- **`populate_m_u_from_lookup` reads the SQL**: for a trainable non-null level whose value is observed, the `m` and
`u` that `EM.step` stores (`EM.updateLevel`) are the numbers in the SQL's row of that value.  Together with
`sql_lambda_is_step_prior` and `sql_mstep_model` this makes the C03 theorems about `EM.step`
(`C03MB.step_is_abstract_emstep`, `C03MB.loglik_mono_executable`) statements about the regenerated M-step SQL, given
that the `match_probability` column is the E-step (`Linked`). -/
theorem sql_update_level {useApc : Bool} {θ : EM.Params ℝ} {ci : Nat} {rows : List PRow} {rs : List (EM.Row ℝ)}
    (h : List.Forall₂ (Linked useApc θ ci) rows rs) (sess : EM.Session) (l : Score.Level ℝ) (st : EM.LevelState)
    (hn : l.isNull = false) (hfm : (st.fixM || sess.fixM) = false) (hfu : (st.fixU || sess.fixU) = false)
    (hv : l.cvv ∈ EM.observedValues θ rs ci) (qm qu : ℚ)
    (hm : sqlNewM useApc rows ci l.cvv = Val.rat qm) (hu : sqlNewU useApc rows ci l.cvv = Val.rat qu) :
    (EM.updateLevel sess θ rs ci l st).1.m = (qm : ℝ) ∧ (EM.updateLevel sess θ rs ci l st).1.u = (qu : ℝ) := by
  unfold EM.updateLevel
  simp only [hn, Bool.false_eq_true, if_false, hfm, hfu, sql_newM_model h _ hv qm hm, sql_newU_model h _ hv qu hu]
  exact ⟨trivial, trivial⟩

/-- A level whose value has no row in the SQL result receives the `LEVEL_NOT_OBSERVED` placeholder. -/
theorem sql_update_level_unobserved {useApc : Bool} {θ : EM.Params ℝ} {ci : Nat} {rows : List PRow}
    {rs : List (EM.Row ℝ)} (h : List.Forall₂ (Linked useApc θ ci) rows rs) (sess : EM.Session) (l : Score.Level ℝ)
    (st : EM.LevelState) (hn : l.isNull = false) (hfm : (st.fixM || sess.fixM) = false)
    (hfu : (st.fixU || sess.fixU) = false) (hv : l.cvv ∉ (gammaValues rows ci).filter (· != -1)) :
    (EM.updateLevel sess θ rs ci l st).1.m = EM.notObservedValue ∧
      (EM.updateLevel sess θ rs ci l st).1.u = EM.notObservedValue := by
  unfold EM.updateLevel
  simp only [hn, Bool.false_eq_true, if_false, hfm, hfu, (sql_unobserved_model h _ hv).1,
    (sql_unobserved_model h _ hv).2]
  exact ⟨trivial, trivial⟩

/-- Non-vacuity of the link: the witness `EMMBridge.Fix` of `C03MBridge` (one comparison with levels of values 1 and
0, prior 1/2, two rows whose E-step probability is 1/2) is linked, in both variants, to the SQL rows
`(gamma 1, 1/2, 1)`, `(gamma 0, 1/2, 1)`. -/
theorem sql_link_witness (useApc : Bool) :
    List.Forall₂ (Linked useApc Lemmas.EMMBridge.Fix.θ 0) [⟨[1], 1/2, 1⟩, ⟨[0], 1/2, 1⟩] Lemmas.EMMBridge.Fix.rows := by
  open Lemmas.EMMBridge in
  refine List.Forall₂.cons ⟨?_, rfl, fun _ => rfl, ?_⟩ (List.Forall₂.cons ⟨?_, rfl, fun _ => rfl, ?_⟩ List.Forall₂.nil)
  · rw [Fix.epA]; norm_num
  · rw [Fix.gA]; rfl
  · rw [Fix.epB]; norm_num
  · rw [Fix.gB]; rfl

/-- … on which the M-step SQL returns `m = u = 1/2` for both values and lambda `1/2`. -/
example :
    mStep true ["c"] [⟨[1], 1/2, 1⟩, ⟨[0], 1/2, 1⟩] =
      [[Val.int 1, Val.str "c", Val.rat (1/2), Val.rat (1/2)], [Val.int 0, Val.str "c", Val.rat (1/2), Val.rat (1/2)],
       [Val.int 0, Val.str "_probability_two_random_records_match", Val.rat (1/2), Val.rat (1/2)]] := by
  decide +kernel

end SplinkVerif.C03Sql
