import SplinkVerif.Lemmas.Tables
/-!
# C18 — Splink never damages data it did not create and can clean up after itself

Property theorems about `Model/Tables.lean` (the table-cache state machine of `Model/Cache.lean` plus an
owner tag per catalog entry, `register_table`'s existence check and the `created_by_splink` guard).
`hash` is the physical-name hash, `eval` the contents a SQL text produces — both arbitrary functions;
`U` is the catalog before Splink was attached (name ↦ schema+contents code); `derivedName` is any
classifier of table names singling out the form `<templated>_<hash>` of Splink's physical names.

Finding F24, repaired in the code: before the repair `register_table(data, <physical name of a cached Splink
table>, overwrite=True)` replaced the table but left the dict entry, so the bulk deletion then dropped the
caller's table.  The repaired code (and `Tables.register`) also removes every dict entry whose physical name is
the replaced one; `overwrite_onto_cached_name_kept` states, for every state, that the caller's table survives
`delete_tables_created_by_splink_from_db` and `invalidate_cache`.
-/
namespace SplinkVerif.C18
open SplinkVerif SplinkVerif.Tables
open SplinkVerif.Cache (Phys Key Entry Req dbGet)

/-- The explicit, decidable name-form hypothesis (definition in `Model/Tables.lean`, a `Bool`):
`U.all (fun e => !derivedName e.1) && ops.all (wfOp hash derivedName U)` where `wfOp` demands of
`req r`: `derivedName ⟨r.templ, hash r.text 0⟩`; of `register p _ ow`: `!derivedName p && (!ow || !nameIn p U)`;
of `dropDf p created force`: `if created then derivedName p else (!force || !nameIn p U)`.
It excludes user tables literally named `<templated>_<hash>`, user tables the caller (or Splink's own
`overwrite=True` registrations `__splink__df_new_records_<uid>`, `__splink__compare_two_records_*_<uid>`,
`__splink__bridges_<hash>`, `__splink__input_table_<i>`) overwrites or force-drops by name, and
registrations under the physical name of a Splink-derived table (the latter are nevertheless handled by the
code since repair F24, see `overwrite_onto_cached_name_kept`, which needs no `WF`). -/
abbrev WF := @Tables.WF

/-- **User tables are untouched.** After every history of requests (cached or not), named stores,
registrations, guarded drops, `delete_tables_created_by_splink_from_db` and `invalidate_cache`, every
table that was in the database before Splink was attached is still in the catalog with the same
contents and is still the user's. -/
theorem user_tables_untouched (hash eval : Nat → Nat → Nat) (derivedName : Phys → Bool)
    (U : List (Phys × Nat)) (ops : List Op) (h : WF hash derivedName U ops = true)
    (p : Phys) (v : Nat) (hp : (p, v) ∈ U) :
    (p, v) ∈ (run hash eval (attach U) ops).base.db ∧
      ownerOf p (run hash eval (attach U) ops).tags = .user :=
  Lemmas.TablesL.user_tables_untouched hash eval derivedName U ops h p v hp

/-- **Registration under an existing name is refused unless overwrite is requested**: in every state, if
the name is in the catalog, `register_table(data, name, overwrite=False)` raises and changes nothing. -/
theorem register_refused_without_overwrite (s : State) (p : Phys) (v w : Nat) (h : (p, w) ∈ s.base.db) :
    (register s p v false).refused = true ∧ (register s p v false).state = s := by
  rw [Lemmas.TablesL.register_eq, Lemmas.CacheL.dbGet_isSome_of_mem h]
  exact ⟨rfl, rfl⟩

/-- …and with `overwrite=True` it is carried out: the name then holds the caller's data. -/
theorem register_with_overwrite_replaces (s : State) (p : Phys) (v : Nat) :
    (register s p v true).refused = false ∧ (p, v) ∈ (register s p v true).state.base.db ∧
      ownerOf p (register s p v true).state.tags = .callerRegistered := by
  rw [Lemmas.TablesL.register_overwrite]
  exact ⟨rfl, List.mem_cons_self, Lemmas.TablesL.ownerOf_cons_self p _ _⟩

/-- **Dropping through Splink refuses tables Splink did not create**: a SplinkDataFrame without
`created_by_splink`, dropped without `force_non_splink_table`, raises and changes nothing. -/
theorem drop_refused_for_foreign (s : State) (p : Phys) : dropDf s p false false = ⟨s, true⟩ :=
  rfl

/-- **Cleanup is exact.** In the state reached by any disciplined history,
`delete_tables_created_by_splink_from_db` (and `invalidate_cache`, which has the same catalog effect)
leaves no table produced by a request in the catalog, and every other entry — the user's tables and
the caller's registrations — is still there with the same contents. -/
theorem cleanup_exact (hash eval : Nat → Nat → Nat) (derivedName : Phys → Bool)
    (U : List (Phys × Nat)) (ops : List Op) (h : WF hash derivedName U ops = true) (p : Phys) (v : Nat) :
    let s := run hash eval (attach U) ops
    ((p, v) ∈ (Cache.deleteCreated s.base).db → ownerOf p s.tags ≠ .splinkDerived) ∧
    ((p, v) ∈ s.base.db → ownerOf p s.tags ≠ .splinkDerived → (p, v) ∈ (Cache.deleteCreated s.base).db) ∧
    (Cache.invalidate s.base).db = (Cache.deleteCreated s.base).db :=
  ⟨Lemmas.TablesL.no_derived_after_deleteCreated (Lemmas.TablesL.inv_of_wf ops h),
   Lemmas.TablesL.kept_by_deleteCreated (Lemmas.TablesL.inv_of_wf ops h), Lemmas.CacheL.invalidate_db _⟩

/-- **Dropped means gone**: after a drop that was not refused the catalog has no table of that name… -/
theorem dropped_means_gone (s : State) (p : Phys) (created force : Bool)
    (h : (dropDf s p created force).refused = false) (v : Nat) :
    (p, v) ∉ (dropDf s p created force).state.base.db := by
  unfold dropDf at h ⊢
  split
  · next hc => exact absurd h (by rw [if_pos hc]; nofun)
  · exact fun hm => (Lemmas.CacheL.mem_dbDel.1 hm).2 rfl

/-- …and every table the bulk deletion picks (held by the dict under its own name with
`created_by_splink`) is absent afterwards. -/
theorem bulk_dropped_means_gone (s : Cache.State) (e : Entry) (h : (Key.phys e.phys, e) ∈ s.cache)
    (hc : e.createdBySplink = true) (v : Nat) : (e.phys, v) ∉ (Cache.deleteCreated s).db :=
  fun hm => (Lemmas.CacheL.mem_deleteCreated_db.1 hm).2 e h hc rfl

/-- **Overwriting a cached Splink table keeps the caller's data** (repair F24; before it, as confirmed
on the real code, `register_table(data, <physical name of a cached Splink table>, overwrite=True)` replaced the
table but left the dict entry, so the bulk deletion then dropped the caller's table).  In EVERY state (no
name discipline assumed), registering with `overwrite=True` under a name that is in the catalog forgets every
dict entry pointing at that name; hence neither `delete_tables_created_by_splink_from_db` nor
`invalidate_cache` removes the newly registered table. -/
theorem overwrite_onto_cached_name_kept (s : State) (p : Phys) (v : Nat)
    (h : (dbGet p s.base.db).isSome = true) :
    let s' := (register s p v true).state
    (p, v) ∈ (Cache.deleteCreated s'.base).db ∧ (p, v) ∈ (Cache.invalidate s'.base).db ∧
      ∀ k e, (k, e) ∈ s'.base.cache → e.phys ≠ p := by
  open Lemmas.TablesL Lemmas.CacheL in
  rw [register_overwrite]
  intro s'
  rw [invalidate_db]
  have hne : ∀ k e, (k, e) ∈ regCache s p → e.phys ≠ p := fun k e hm => (mem_regCache.1 hm).2 h
  have hkept : (p, v) ∈ (Cache.deleteCreated s'.base).db :=
    mem_deleteCreated_db.2 ⟨List.mem_cons_self, fun e he _ => hne _ e he⟩
  exact ⟨hkept, hkept, hne⟩

/-- The history that exhibited F24 (a request, then `register_table(…, overwrite=True)` under the physical
name of the table the request created): the bulk deletion keeps the caller's table. -/
example :
    let hash := fun t u => t * 1000 + u
    let eval := fun t (_ : Nat) => t
    let s := run hash eval (attach []) [Op.req ⟨7, 3, true⟩, Op.register ⟨7, 3000⟩ 99 true]
    ((⟨7, 3000⟩ : Phys), 99) ∈ s.base.db ∧ ownerOf ⟨7, 3000⟩ s.tags = .callerRegistered ∧
      ((⟨7, 3000⟩ : Phys), 99) ∈ (Cache.deleteCreated s.base).db := by decide +kernel

/-- Non-vacuity: a user table `⟨1,0⟩`, a request, a refused and an accepted registration, a refused and a
forced drop, cleanup: the discipline holds, the derived table is gone, the rest is there. -/
example :
    let hash := fun t u => t * 1000 + u
    let eval := fun t (_ : Nat) => t
    let cls : Phys → Bool := fun p => p.hash ≥ 1000
    let U : List (Phys × Nat) := [(⟨1, 0⟩, 11)]
    let ops := [Op.req ⟨7, 3, true⟩, Op.register ⟨1, 0⟩ 5 false, Op.register ⟨2, 0⟩ 6 false,
      Op.dropDf ⟨2, 0⟩ false false, Op.dropDf ⟨7, 3000⟩ true false, Op.req ⟨7, 4, false⟩, Op.deleteCreated]
    WF hash cls U ops = true ∧
    (run hash eval (attach U) ops).base.db = [(⟨2, 0⟩, 6), (⟨1, 0⟩, 11)] ∧
    (register (attach U) ⟨1, 0⟩ 5 false).refused = true := by decide +kernel

end SplinkVerif.C18
