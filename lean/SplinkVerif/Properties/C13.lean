import SplinkVerif.Lemmas.Invariance
import SplinkVerif.Lemmas.EMSums
import SplinkVerif.Properties.C01
/-!
# C13 — results are invariant under re-presentation of the same problem

All are statements about the models that C01 (blocking), C03 (EM) and C05
(clustering) already tie to the real code.  Each is a corollary
of the exactness theorem of the respective model: the conditions that
characterise the output are equivariant under the re-presentation, hence so is
the output.

`names_irrelevant` — **design fact, not a theorem.**  No model definition
receives a column name: blocking rules and comparison levels enter the models as
*outcome functions* (`Rule.eval : Nat → Nat → B3`, guard vectors of
`Score.Pair`), tables as functions of the record index.  A renaming of columns
(case changes, names that need quoting, SQL keywords) therefore cannot change
any model output, and there is nothing to state in Lean.  Whether the real code
produces the same outcome functions under a renaming is exactly what the
correspondence check `harness/props/c13.py` tests (F1, F4 were defects of this
kind).  The same holds for `materialise_*` flags, debug mode and the engine's
thread count: they are execution strategies of the same SQL and do not appear in
the models; they are covered by repetition in the correspondence check only.

`score_pair_symmetric_inputs` is NOT claimed: comparison levels need not be
symmetric in `l`/`r`; the orientation of a scored pair is fixed by blocking.
-/
namespace SplinkVerif.C13
open SplinkVerif SplinkVerif.Blocking SplinkVerif.CC SplinkVerif.EM

/-- The table whose record `i` is record `σ i` of `t`:
`{ m := t.m, key i := t.key (σ i), sd i := t.sd (σ i), part i n := t.part (σ i) n }`. -/
abbrev transportTable := @Lemmas.Inv.transportTable
/-- The rule seen on the re-listed records: `eval l r := q.eval (σ l) (σ r)`, same kind. -/
abbrev transportRule := @Lemmas.Inv.transportRule
/-- `{ t with part := part }` — same records, other salts. -/
abbrev withPart := @Lemmas.Inv.withPart
/-- `{ t with key := key }` — same records, other unique ids. -/
abbrev withKey := @Lemmas.Inv.withKey
/-- Every rule is symmetric in `l`/`r`: `∀ q ∈ rules, ∀ l r, q.eval l r = q.eval r l`. -/
abbrev SymRules := @Lemmas.Inv.SymRules
/-- `edges.map fun e => (σ e.1, σ e.2)`. -/
abbrev mapEdges := @Lemmas.Inv.mapEdges

/-- Row permutation.  Listing the records in another order (record `i` of the new
table is record `σ i` of the old one; `σ` maps the index range to itself) relabels
the emitted rows and changes nothing else — same pairs, same `match_key`. -/
theorem block_row_perm_invariant (lt : LinkType) (t : Table) (rules : List Rule) (σ : Nat → Nat)
    (hlt : C01.SelfJoin lt) (hsalt : C01.SaltOK t rules)
    (hσ : ∀ i, σ i < t.m ↔ i < t.m) (i l r : Nat) :
    (i, l, r) ∈ block lt (transportTable t σ) (rules.map (transportRule σ)) ↔
      (i, σ l, σ r) ∈ block lt t rules :=
  Lemmas.Blk.mem_block_congr hlt hsalt
    (Lemmas.Inv.saltOK_transport t rules σ (fun i hi => (hσ i).mpr hi) hsalt) (hσ l).symm (hσ r).symm
    (by cases lt <;> rfl) (by rw [List.map_map]; rfl) i

/-- …and when `σ` is a permutation of the index range (inverse `τ`), every row of the
original output is the image of a row of the re-listed output. -/
theorem block_row_perm_onto (lt : LinkType) (t : Table) (rules : List Rule) (σ τ : Nat → Nat)
    (hlt : C01.SelfJoin lt) (hsalt : C01.SaltOK t rules)
    (hσ : ∀ i, σ i < t.m ↔ i < t.m) (hτ : ∀ i, i < t.m → σ (τ i) = i) (i l r : Nat) :
    (i, l, r) ∈ block lt t rules ↔
      l < t.m ∧ r < t.m ∧
        (i, τ l, τ r) ∈ block lt (transportTable t σ) (rules.map (transportRule σ)) := by
  have key : l < t.m → r < t.m →
      ((i, τ l, τ r) ∈ block lt (transportTable t σ) (rules.map (transportRule σ)) ↔
        (i, l, r) ∈ block lt t rules) := fun hl hr => by
    rw [block_row_perm_invariant lt t rules σ hlt hsalt hσ, hτ l hl, hτ r hr]
  exact ⟨fun h => have hb := Lemmas.Blk.mem_block_sound h; ⟨hb.1, hb.2.1, (key hb.1 hb.2.1).2 h⟩,
    fun ⟨hl, hr, h⟩ => (key hl hr).1 h⟩

/-- Rule reordering.  Two rule lists that are permutations of each other emit the same
set of ordered pairs; only the `match_key` attribution may change. -/
theorem block_rule_reorder (lt : LinkType) (t : Table) (rules rules' : List Rule)
    (hlt : C01.SelfJoin lt) (hsalt : C01.SaltOK t rules) (hp : rules.Perm rules') (l r : Nat) :
    (∃ i, (i, l, r) ∈ block lt t rules) ↔ (∃ i, (i, l, r) ∈ block lt t rules') :=
  Lemmas.Inv.block_rule_reorder lt t rules rules' hlt hsalt hp l r

/-- Salting.  Any partition counts (`rules'` has the same outcome functions, any kinds)
and any salts (`part`) give the same rows up to order. -/
theorem block_salting_invariant (lt : LinkType) (t : Table) (part : Nat → Nat → Nat)
    (rules rules' : List Rule) (hlt : C01.SelfJoin lt)
    (hsalt : C01.SaltOK t rules) (hsalt' : C01.SaltOK (withPart t part) rules')
    (hev : rules.map (·.eval) = rules'.map (·.eval)) :
    (block lt t rules).Perm (block lt (withPart t part) rules') :=
  Lemmas.Blk.block_perm_congr hlt hsalt hsalt' rfl (Lemmas.Inv.whereCond_withPart lt t part) hev

/-- Order-preserving relabelling (or retyping) of unique ids: the blocked rows are
*identical* (every link type, every rule kind). -/
theorem key_relabel_equivariant (lt : LinkType) (t : Table) (rules : List Rule) (f : Nat → Nat)
    (hf : ∀ a b, a < b → f a < f b) :
    block lt (withKey t fun i => f (t.key i)) rules = block lt t rules :=
  Lemmas.Inv.blockFrom_congr lt t (withKey t fun i => f (t.key i)) rfl rfl rfl
    (Lemmas.Inv.whereCond_withKey_of_strictMono lt t f hf) _ _

/-- Arbitrary relabelling of unique ids (any new distinct ids): for rules symmetric in
`l`/`r` the same unordered pairs are emitted under the same `match_key`; only the
orientation of a pair may flip. -/
theorem key_relabel_unordered (lt : LinkType) (t : Table) (key' : Nat → Nat) (rules : List Rule)
    (hlt : C01.SelfJoin lt) (hne : rules ≠ []) (hsalt : C01.SaltOK t rules)
    (hwf : C01.WFKeys t) (hwf' : C01.WFKeys (withKey t key')) (hs : SymRules rules) (i l r : Nat) :
    ((i, l, r) ∈ block lt (withKey t key') rules ∨ (i, r, l) ∈ block lt (withKey t key') rules) ↔
      ((i, l, r) ∈ block lt t rules ∨ (i, r, l) ∈ block lt t rules) := by
  rw [Lemmas.Inv.mem_block_unordered lt t rules hlt hne hsalt hwf hs,
    Lemmas.Inv.mem_block_unordered lt (withKey t key') rules hlt hne hsalt hwf' hs]
  exact Iff.rfl

/-- Two input tables under `link_only` (backend `two_dataset_link_only`) ≡ one
concatenated table with a source-dataset column under `link_only` (restatement of
`C01.block_two_dataset_eq_link_only`). -/
theorem two_table_vs_source_column (t : Table) (rules : List Rule) (hne : rules ≠ [])
    (hsalt : C01.SaltOK t rules)
    (htwo : ∀ a b c, a < t.m → b < t.m → c < t.m → t.sd a = t.sd b ∨ t.sd b = t.sd c ∨ t.sd a = t.sd c)
    (hord : ∀ a b, a < t.m → b < t.m → t.sd a < t.sd b → t.key a < t.key b)
    (row : Blocking.Row) :
    row ∈ block .twoDatasetLinkOnly t rules ↔ row ∈ block .linkOnly t rules :=
  C01.block_two_dataset_eq_link_only t rules hne hsalt htwo hord row

/-- Clustering under an arbitrary relabelling of the nodes (a bijection `σ` of `0..n-1`
with inverse `τ`): the partition — the same-cluster relation — is preserved. -/
theorem cc_partition_relabel_invariant (n : Nat) (edges : List Edge) (σ τ : Nat → Nat)
    (hE : ∀ e ∈ edges, e.1 < n ∧ e.2 < n)
    (hσ : ∀ i, i < n → σ i < n) (hτ : ∀ i, i < n → τ i < n)
    (hτσ : ∀ i, i < n → τ (σ i) = i)
    (i j ci cj ci' cj' : Nat)
    (hi : (i, ci) ∈ cluster n edges) (hj : (j, cj) ∈ cluster n edges)
    (hi' : (σ i, ci') ∈ cluster n (mapEdges σ edges))
    (hj' : (σ j, cj') ∈ cluster n (mapEdges σ edges)) :
    ci' = cj' ↔ ci = cj := by
  have hE' := Lemmas.Inv.mapEdges_bound n edges σ hE hσ
  rw [Lemmas.same_cluster_iff_reach n _ hE' _ _ _ _ hi' hj',
    Lemmas.same_cluster_iff_reach n edges hE _ _ _ _ hi hj]
  exact Lemmas.Inv.reach_iso n edges σ τ hE hσ hτ hτσ i j (Lemmas.mem_cluster n edges hE i ci hi).1
    (Lemmas.mem_cluster n edges hE j cj hj).1

/-- …and if the relabelling is monotone within every connected component (in particular
if it preserves the order of ids) the cluster ids are relabelled along with the nodes. -/
theorem cc_relabel_invariant (n : Nat) (edges : List Edge) (σ τ : Nat → Nat)
    (hE : ∀ e ∈ edges, e.1 < n ∧ e.2 < n)
    (hσ : ∀ i, i < n → σ i < n) (hτ : ∀ i, i < n → τ i < n)
    (hτσ : ∀ i, i < n → τ (σ i) = i) (hστ : ∀ i, i < n → σ (τ i) = i)
    (hmono : ∀ a b, Reach (Lemmas.Adj n edges) a b → a ≤ b → σ a ≤ σ b)
    (i c c' : Nat) (hi : (i, c) ∈ cluster n edges)
    (hi' : (σ i, c') ∈ cluster n (mapEdges σ edges)) : c' = σ c := by
  open Lemmas Lemmas.Inv in
  have hE' := mapEdges_bound n edges σ hE hσ
  obtain ⟨hr, hmin⟩ := cluster_is_min_reachable n edges hE i c hi
  obtain ⟨hr', hmin'⟩ := cluster_is_min_reachable n _ hE' (σ i) c' hi'
  have hin : i < n := (mem_cluster n edges hE i c hi).1
  have hc'n : c' < n := by
    cases hr' with
    | refl => exact hσ i hin
    | tail _ h => exact h.2.1
  -- `σ c` is reachable from `σ i`, and `τ c'` from `i`
  have h1 : c' ≤ σ c := hmin' _ (reach_map σ (adj_map n edges σ hσ) hr)
  have h2 : Reach (Adj n edges) i (τ c') := by
    have := reach_map (adj' := Adj n edges) τ (adj_unmap n edges σ τ hE hτ hτσ) hr'
    rwa [hτσ i hin] at this
  have h5 : σ c ≤ σ (τ c') :=
    hmono _ _ (reach_trans (reach_symm (adj_symm n edges) hr) h2) (hmin _ h2)
  rw [hστ c' hc'n] at h5
  exact Nat.le_antisymm h1 h5

/-- EM under a permutation of the comparison-vector rows (over ℝ): the M-step counts,
the new prior, the new `m`/`u` of every level and hence the whole EM step are unchanged. -/
theorem em_row_perm_invariant (sess : Session) (θ : Params ℝ) (rows rows' : List (EM.Row ℝ))
    (hp : rows.Perm rows') :
    (∀ ci v, mCount θ rows ci v = mCount θ rows' ci v) ∧
    (∀ ci v, uCount θ rows ci v = uCount θ rows' ci v) ∧
    lambdaNew θ rows = lambdaNew θ rows' ∧
    (∀ ci v, newM θ rows ci v = newM θ rows' ci v) ∧
    (∀ ci v, newU θ rows ci v = newU θ rows' ci v) ∧
    EM.step sess θ rows = EM.step sess θ rows' :=
  ⟨Lemmas.InvEM.mCount_perm θ hp, Lemmas.InvEM.uCount_perm θ hp, Lemmas.InvEM.lambdaNew_perm θ hp,
    Lemmas.InvEM.newM_perm θ hp, Lemmas.InvEM.newU_perm θ hp, Lemmas.InvEM.step_perm sess θ hp⟩

/-- Non-vacuity (blocking): three records with keys 5 < 7 < 9 listed as `[9, 5, 7]`
(`σ = (0 1 2) ↦ (2 0 1)`), rule TRUE on the records 0 and 2 of the original listing:
the original emits `(0, 0, 2)`, the re-listed table emits `(0, 1, 0)` = `(0, σ⁻¹ 0, σ⁻¹ 2)`;
an order-reversing relabelling of the ids flips the orientation only. -/
example :
    let t : Table := { m := 3, key := fun i => 5 + 2 * i, sd := fun _ => 0, part := fun i n => i % n }
    let q : Rule := { kind := .salted 2, eval := fun l r => some ((l == 0 && r == 2) || (l == 2 && r == 0)) }
    let σ : Nat → Nat := fun i => (i + 2) % 3
    block .dedupeOnly t [q] = [(0, 0, 2)] ∧
    block .dedupeOnly (transportTable t σ) [transportRule σ q] = [(0, 1, 0)] ∧
    block .dedupeOnly (withKey t fun i => 10 - i) [q] = [(0, 2, 0)] := by decide +kernel

/-- Non-vacuity (clustering): path 3–1–0 and isolated 2; swapping the labels 0 and 3
keeps the partition `{0,1,3},{2}`; the cluster id stays the least member. -/
example :
    let σ : Nat → Nat := fun i => if i = 0 then 3 else if i = 3 then 0 else i
    cluster 4 [(3, 1), (1, 0)] = [(0, 0), (1, 0), (2, 2), (3, 0)] ∧
    cluster 4 (mapEdges σ [(3, 1), (1, 0)]) = [(0, 0), (1, 0), (2, 2), (3, 0)] := by decide +kernel

end SplinkVerif.C13
