import SplinkVerif.Lemmas.BCountSql
import SplinkVerif.Properties.C14
/-!
# C14 at the level of the emitted SQL: the blocking-analysis counting pipeline

`Generated/BCountSql.lean` holds the statements `count_comparisons_from_blocking_rule` and `n_largest_blocks` emit
(T-sql translator, regenerated on every run from real runs with marker key columns); `Model/BCountSql.lean` is the Python
control flow around them (the loop over the rule's equi-join conditions, the two table set-ups, the no-key branch, the
`None → 0` post-processing of the total).  The theorems say that this pipeline, evaluated with the SQL semantics `Rel.eval`,

* reports as pre-filter count exactly the size of the equi-join of the two inputs on the key expressions under SQL
  equality (NULL never joins) — for EVERY table contents (any rows, any values, NULL keys), EVERY list of `k ≥ 1` key
  expression pairs, both table set-ups — which is the sum over key values of left × right block sizes;
* lists in `__splink__block_counts` exactly one row per block (a key tuple present on both sides, NULL-free) with its true
  sizes;
* with no key reports `|L| · |R|`;
* in `n_largest_blocks` returns, for every way the engine may resolve ties, truly largest blocks in descending order.

The key expressions are parameters (`Expr`), the tables are arbitrary (`db`), so nothing here depends on the capture's data.
The lemmas are in `Lemmas/BCountSql.lean` and `Lemmas/Rel.lean`.
-/
namespace SplinkVerif.C14Sql
open SplinkVerif SplinkVerif.Rel SplinkVerif.BCountSql

/-- **The hand-written loop forms are the regenerated statements.**  For every captured run (self-join of
`__splink__df_concat` with 1, 2, 3, 0 keys; the two tables of a two-table link_only job with 1, 2, 0 keys; `n_largest_blocks`
in both set-ups) the statement list the code emitted is, syntactically, `countStmts` / `nLargestStmts` at that key list, and
the `ORDER BY` key is `topKey`, descending.  A change of the emitted SQL breaks this theorem. -/
theorem generated_statements_are_the_loop_instances (kl0 kl1 kl2 kr0 kr1 kr2 : Expr) :
    Gen.BCountSql.self1Stmts kl0 kr0 = countStmts false [(kl0, kr0)] ∧
    Gen.BCountSql.self2Stmts kl0 kl1 kr0 kr1 = countStmts false [(kl0, kr0), (kl1, kr1)] ∧
    Gen.BCountSql.self3Stmts kl0 kl1 kl2 kr0 kr1 kr2 = countStmts false [(kl0, kr0), (kl1, kr1), (kl2, kr2)] ∧
    Gen.BCountSql.two1Stmts kl0 kr0 = countStmts true [(kl0, kr0)] ∧
    Gen.BCountSql.two2Stmts kl0 kl1 kr0 kr1 = countStmts true [(kl0, kr0), (kl1, kr1)] ∧
    Gen.BCountSql.self0Stmts = countStmts false [] ∧
    Gen.BCountSql.two0Stmts = countStmts true [] ∧
    (Gen.BCountSql.nlSelf1Stmts kl0 kr0 = nLargestStmts false [(kl0, kr0)] ∧
      Gen.BCountSql.nlSelf1BlocksTopKey = topKey 1 ∧ Gen.BCountSql.nlSelf1BlocksTopDesc = true) ∧
    (Gen.BCountSql.nlTwo2Stmts kl0 kl1 kr0 kr1 = nLargestStmts true [(kl0, kr0), (kl1, kr1)] ∧
      Gen.BCountSql.nlTwo2BlocksTopKey = topKey 2 ∧ Gen.BCountSql.nlTwo2BlocksTopDesc = true) ∧
    (Gen.BCountSql.nlSelf3Stmts kl0 kl1 kl2 kr0 kr1 kr2 = nLargestStmts false [(kl0, kr0), (kl1, kr1), (kl2, kr2)] ∧
      Gen.BCountSql.nlSelf3BlocksTopKey = topKey 3 ∧ Gen.BCountSql.nlSelf3BlocksTopDesc = true) :=
  ⟨rfl, rfl, rfl, rfl, rfl, rfl, rfl, ⟨rfl, rfl, rfl⟩, ⟨rfl, rfl, rfl⟩, ⟨rfl, rfl, rfl⟩⟩

/-- **Refinement (1): the pre-filter count is the size of the equi-join.**  For every database, both set-ups and every
non-empty list of key expression pairs, `number_of_comparisons_generated_pre_filter_conditions` (the `sum(block_count)` of
the pipeline, `None` read as 0) is the number of pairs (row of the left input, row of the right input) whose key tuples are
equal and free of NULL. -/
theorem sql_prefilter_eq_equijoin (two : Bool) (keys : List (Expr × Expr)) (hk : keys ≠ []) (db : Db) :
    preFilterTotal two keys db = equiJoinSize keys (db (tableL two)) (db (tableR two)) := by
  rw [Lemmas.BCountSql.preFilterTotal_eq_sum two keys hk, Lemmas.BCountSql.sum_blocks_eq_equiJoin]

/-- … which is the sum over the blocks of `count_l * count_r` (the property's wording). -/
theorem sql_prefilter_eq_sum_of_block_products (two : Bool) (keys : List (Expr × Expr)) (hk : keys ≠ []) (db : Db) :
    preFilterTotal two keys db
      = ((blockKeys keys (db (tableL two)) (db (tableR two))).map fun k =>
          cntL keys (db (tableL two)) k * cntR keys (db (tableR two)) k).sum :=
  Lemmas.BCountSql.preFilterTotal_eq_sum two keys hk db

/-- **Refinement to the functional model**: the SQL total is `BlockingAnalysis.preFilterCount` on record indices with the key
tuples coded as `Option Nat` (`none` = some component NULL) — the request `harness/props/c14.py` sends to the compiled model —
for every coding injective on the tuples in play; so `C14.prefilter_eq_block_products` speaks about the regenerated SQL. -/
theorem sql_prefilter_eq_model (two : Bool) (keys : List (Expr × Expr)) (hk : keys ≠ []) (db : Db)
    (code : List Val → Nat)
    (hinj : ∀ a ∈ (db (tableL two)).map (keyOf (keys.map (·.1))) ++ (db (tableR two)).map (keyOf (keys.map (·.2))),
            ∀ b ∈ (db (tableL two)).map (keyOf (keys.map (·.1))) ++ (db (tableR two)).map (keyOf (keys.map (·.2))),
              code a = code b → a = b) :
    preFilterTotal two keys db =
      BlockingAnalysis.preFilterCount (List.range (db (tableL two)).length) (List.range (db (tableR two)).length)
        (Lemmas.BCountSql.codedKey code (keys.map (·.1)) (db (tableL two)))
        (Lemmas.BCountSql.codedKey code (keys.map (·.2)) (db (tableR two))) := by
  rw [sql_prefilter_eq_equijoin two keys hk db]
  exact Lemmas.BCountSql.equiJoinSize_eq_model keys _ _ code hinj

/-- **Refinement (2): each row of `__splink__block_counts` is one block.**  The table is, row for row, one row
`(count_l, count_r, count_l * count_r)` per block key; the block keys are distinct, and a key tuple is a block key iff it
occurs on the left, occurs on the right and has no NULL component; `count_l` / `count_r` are the numbers of rows of each side
with that key tuple (both positive). -/
theorem sql_blocks_exact (two : Bool) (keys : List (Expr × Expr)) (hk : keys ≠ []) (db : Db) :
    let L := db (tableL two)
    let R := db (tableR two)
    blocks two keys db = (blockKeys keys L R).map (blockRow keys L R) ∧
    (blockKeys keys L R).Nodup ∧
    (∀ k, k ∈ blockKeys keys L R ↔
      (∃ l ∈ L, keyOf (keys.map (·.1)) l = k) ∧ (∃ r ∈ R, keyOf (keys.map (·.2)) r = k) ∧ ∀ v ∈ k, v ≠ Val.null) ∧
    (∀ k ∈ blockKeys keys L R,
      cntL keys L k = (L.filter fun l => keyOf (keys.map (·.1)) l == k).length ∧
      cntR keys R k = (R.filter fun r => keyOf (keys.map (·.2)) r == k).length ∧
      0 < cntL keys L k ∧ 0 < cntR keys R k) := by
  intro L R
  refine ⟨Lemmas.BCountSql.blocks_eq two keys hk db, Lemmas.BCountSql.nodup_blockKeys keys L R,
    Lemmas.BCountSql.mem_blockKeys keys L R, ?_⟩
  intro k hk'
  have h := (Lemmas.BCountSql.mem_blockKeys keys L R k).mp hk'
  exact ⟨rfl, rfl, Lemmas.BCountSql.sizeOf_pos _ L k h.1, Lemmas.BCountSql.sizeOf_pos _ R k h.2.1⟩

/-- **Refinement (3): no equi-join key** — one row `(|L|, |R|, |L| · |R|)` and the total `|L| · |R|` (the self-join form
`count(*) * count(*)` and the two scalar subqueries of the two-table form). -/
theorem sql_prefilter_no_keys (two : Bool) (db : Db) :
    preFilterTotal two [] db = (db (tableL two)).length * (db (tableR two)).length ∧
    blocks two [] db = [[Val.int ((db (tableL two)).length : Nat), Val.int ((db (tableR two)).length : Nat),
      Val.int (((db (tableL two)).length : Nat) * ((db (tableR two)).length : Nat))]] := by
  exact ⟨Lemmas.BCountSql.preFilterTotal_of_blocks two [] db [(_, _)] (Lemmas.BCountSql.blocks_noKeys two db),
    Lemmas.BCountSql.blocks_noKeys two db⟩

/-- **Refinement (4): `n_largest_blocks` lists truly largest blocks, whatever the engine does with ties.**  For EVERY possible
result `out` of the final `ORDER BY count_l * count_r DESC LIMIT n` (`IsNLargest`: the first `n` rows of any arrangement in
which no row precedes a row with a strictly larger product): `out` consists of `min n (#blocks)` distinct blocks, each row is
`key ++ (count_l, count_r, count_l * count_r)` of a block key, in descending order of block size, and every block that is not
listed is no larger than every listed one. -/
theorem sql_n_largest (two : Bool) (keys : List (Expr × Expr)) (hk : keys ≠ []) (db : Db) (n : Nat) (out : List Row)
    (h : IsNLargest two keys db n out) :
    let L := db (tableL two)
    let R := db (tableR two)
    ∃ ks : List (List Val),
      out = ks.map (fun k => k ++ blockRow keys L R k) ∧
      ks.Nodup ∧ (∀ k ∈ ks, k ∈ blockKeys keys L R) ∧
      ks.length = min n (blockKeys keys L R).length ∧
      ks.Pairwise (fun a b => cntL keys L a * cntR keys R a ≥ cntL keys L b * cntR keys R b) ∧
      ∀ a ∈ ks, ∀ b ∈ blockKeys keys L R, b ∉ ks →
        cntL keys L a * cntR keys R a ≥ cntL keys L b * cntR keys R b := by
  open Lemmas.BCountSql in
  intro L R
  unfold IsNLargest at h
  rw [topRows_eq two keys hk] at h
  obtain ⟨sorted, hperm, hsorted, rfl⟩ := h
  -- the arrangement is the image of an arrangement of the block keys
  obtain ⟨ks', hks', rfl⟩ := Lemmas.Lists.perm_map_exists (fun k => k ++ blockRow keys L R k) sorted _ hperm
  have hlenk : ∀ k ∈ ks', k.length = keys.length := fun k hk' =>
    length_of_mem_blockKeys keys L R k (hks'.subset hk')
  have hpw : ks'.Pairwise (fun a b => cntL keys L a * cntR keys R a ≥ cntL keys L b * cntR keys R b) := by
    rw [List.pairwise_map] at hsorted
    refine hsorted.imp_of_mem ?_
    intro a b ha hb hab
    rw [mayPrecede_int (topKey_eval keys L R a (hlenk a ha)) (topKey_eval keys L R b (hlenk b hb))] at hab
    simp only [if_true] at hab
    exact_mod_cast hab
  obtain ⟨hlen, hsort, rest, hrest, hdom⟩ := Lemmas.Lists.take_sorted_perm hks' hpw n
  refine ⟨ks'.take n, by rw [List.map_take],
    (hks'.nodup_iff.mpr (nodup_blockKeys keys L R)).sublist (List.take_sublist _ _),
    fun k hk' => hks'.subset (List.mem_of_mem_take hk'), hlen, hsort, ?_⟩
  intro a ha b hb hnb
  rcases List.mem_append.mp (hrest.symm.subset hb) with hb' | hb'
  · exact absurd hb' hnb
  · exact hdom a ha b hb'

/-- The statement is not vacuous: the resolution the driver evaluates (stable insertion sort, then the cut) is a possible
result, for every database. -/
theorem sql_n_largest_has_result (two : Bool) (keys : List (Expr × Expr)) (hk : keys ≠ []) (db : Db) (n : Nat) :
    IsNLargest two keys db n (nLargest two keys db n) := by
  refine Lemmas.BCountSql.isOrderLimit_orderLimit _ _ _ _ fun r hr => ?_
  rw [Lemmas.BCountSql.topRows_eq two keys hk, List.mem_map] at hr
  obtain ⟨k, hk', rfl⟩ := hr
  exact ⟨_, Lemmas.BCountSql.topKey_eval keys _ _ k (Lemmas.BCountSql.length_of_mem_blockKeys keys _ _ k hk')⟩

/-- The theorems read on a regenerated term directly: the statements the two-table link_only run emitted for two keys,
run on any database, report the size of the equi-join of `input_0` and `input_1`. -/
theorem sql_prefilter_generated_two2 (kl0 kl1 kr0 kr1 : Expr) (db : Db) :
    totalOf ((runStmts db (Gen.BCountSql.two2Stmts kl0 kl1 kr0 kr1)) "__splink__total_of_block_counts")
      = equiJoinSize [(kl0, kr0), (kl1, kr1)] (db "input_0") (db "input_1") :=
  sql_prefilter_eq_equijoin true [(kl0, kr0), (kl1, kr1)] (List.cons_ne_nil _ _) db

/-- … and the statements of the self-join run with one key. -/
theorem sql_prefilter_generated_self1 (kl0 kr0 : Expr) (db : Db) :
    totalOf ((runStmts db (Gen.BCountSql.self1Stmts kl0 kr0)) "__splink__total_of_block_counts")
      = equiJoinSize [(kl0, kr0)] (db "__splink__df_concat") (db "__splink__df_concat") :=
  sql_prefilter_eq_equijoin false [(kl0, kr0)] (List.cons_ne_nil _ _) db

/-- **`__splink__df_concat`.**  The hand-written loop form over the input tables is the regenerated statement for 1, 2 and 3
input tables; it evaluates to the rows of the input tables in order (with the table's alias in front as `source_dataset` when
there are several), whenever every input row has the `w` columns the statement lists; and the whole self-join pipeline —
`__splink__df_concat` included — reports the size of the equi-join of these concatenated rows with themselves. -/
theorem sql_concat (w : Nat) (names : List String) (hne : names ≠ []) (keys : List (Expr × Expr)) (hk : keys ≠ [])
    (db : Db) (hw : ∀ n ∈ names, ∀ row ∈ db n, row.length = w) :
    (Gen.BCountSql.self1Concat = concatStmt 7 ["input_0"] ∧
      Gen.BCountSql.self2Concat = concatStmt 7 ["input_0", "input_1"] ∧
      Gen.BCountSql.self3Concat = concatStmt 7 ["input_0", "input_1", "input_2"]) ∧
    (concatStmt w names).eval db = concatRows names db ∧
    totalOf ((runStmts db (selfCountStmts w names keys)) nameTotal)
      = equiJoinSize keys (concatRows names db) (concatRows names db) := by
  refine ⟨⟨rfl, rfl, rfl⟩, Lemmas.BCountSql.concat_eval w names hne db hw, ?_⟩
  -- the statements after the first run on the database in which `__splink__df_concat` holds these rows
  have h := sql_prefilter_eq_equijoin false keys hk (Db.set db nameConcat ((concatStmt w names).eval db))
  rw [show tableL false = nameConcat from rfl, show tableR false = nameConcat from rfl, Lemmas.Rel.set_same] at h
  rw [← Lemmas.BCountSql.concat_eval w names hne db hw]
  exact h

/-- **`_row_counts_per_input_table`** (the regenerated `__splink__df_count` statements): `dedupe_only` — one row holding the number
of rows of `__splink__df_concat`; otherwise one row per distinct value of the source dataset column, holding the number of rows
with that value; and these counts are the functional model's per-dataset counts `sdCounts t` for every table `t` whose `sd`
is an injective coding of that column. -/
theorem sql_row_counts (sd : Expr) (db : Db) :
    rowCounts true sd db = [[Val.int ((db nameConcat).length : Nat)]] ∧
    rowCounts false sd db
      = (((db nameConcat).map sd.eval).eraseDups).map (fun s =>
          [Val.int (((db nameConcat).filter fun r => sd.eval r == s).length : Nat)]) ∧
    ∀ (t : Blocking.Table) (code : Val → Nat), (∀ a b, code a = code b → a = b) → t.m = (db nameConcat).length →
      (∀ i, i < t.m → t.sd i = code (sd.eval ((db nameConcat).getD i []))) →
      countsOf (rowCounts false sd db) = Lemmas.BA.sdCounts t :=
  ⟨rfl, Lemmas.BCountSql.rowCounts_bySd sd db, fun t code => Lemmas.BCountSql.countsOf_bySd sd db t code⟩

/-- **The Cartesian count derived from the SQL row counts is the number of admissible pairs** (`link_only`, at least two
non-empty datasets): the *generated* `calculate_cartesian` applied to the counts the regenerated statement returns. -/
theorem sql_cartesian_link_only (sd : Expr) (db : Db) (t : Blocking.Table) (code : Val → Nat)
    (hinj : ∀ a b, code a = code b → a = b) (hm : t.m = (db nameConcat).length)
    (hsd : ∀ i, i < t.m → t.sd i = code (sd.eval ((db nameConcat).getD i [])))
    (hwf : Lemmas.Blk.WFKeys t) (hk : 2 ≤ (rowCounts false sd db).length) :
    Gen.calculate_cartesian ((countsOf (rowCounts false sd db)).map fun (n : ℕ) => (n : ℚ)) "link_only" =
      some ((BlockingAnalysis.admissiblePairs .linkOnly t : ℕ) : ℚ) := by
  have hc := Lemmas.BCountSql.countsOf_bySd sd db t code hinj hm hsd
  have hk' : 2 ≤ (Lemmas.BA.sdCounts t).length := by
    rw [← hc]
    simpa [countsOf] using hk
  rw [hc]
  exact C14.cartesian_link_only t hwf hk'

/-- … `link_and_dedupe` … -/
theorem sql_cartesian_link_and_dedupe (sd : Expr) (db : Db) (t : Blocking.Table) (code : Val → Nat)
    (hinj : ∀ a b, code a = code b → a = b) (hm : t.m = (db nameConcat).length)
    (hsd : ∀ i, i < t.m → t.sd i = code (sd.eval ((db nameConcat).getD i [])))
    (hwf : Lemmas.Blk.WFKeys t) :
    Gen.calculate_cartesian ((countsOf (rowCounts false sd db)).map fun (n : ℕ) => (n : ℚ)) "link_and_dedupe" =
      some ((BlockingAnalysis.admissiblePairs .linkAndDedupe t : ℕ) : ℚ) := by
  rw [Lemmas.BCountSql.countsOf_bySd sd db t code hinj hm hsd]
  exact C14.cartesian_link_and_dedupe t hwf _ (Lemmas.BA.sdCounts_sum t)

/-- … and `dedupe_only` (one `count(*)`). -/
theorem sql_cartesian_dedupe (sd : Expr) (db : Db) (t : Blocking.Table) (hm : t.m = (db nameConcat).length)
    (hwf : Lemmas.Blk.WFKeys t) :
    Gen.calculate_cartesian ((countsOf (rowCounts true sd db)).map fun (n : ℕ) => (n : ℚ)) "dedupe_only" =
      some ((BlockingAnalysis.admissiblePairs .dedupeOnly t : ℕ) : ℚ) := by
  rw [(sql_row_counts sd db).1, ← hm]
  exact C14.cartesian_dedupe t hwf

/-! ## Non-vacuity -/

/-- keys `[a, a, b, NULL]` joined with themselves on column 0: blocks a (2×2) and b (1×1), the NULL row joins nothing. -/
def demoDb : Db := Db.set (fun _ => []) "__splink__df_concat" [[Val.int 7], [Val.int 7], [Val.int 9], [Val.null]]

example : preFilterTotal false [(Expr.col 0, Expr.col 0)] demoDb = 5 ∧
    blocks false [(Expr.col 0, Expr.col 0)] demoDb = [[Val.int 2, Val.int 2, Val.int 4], [Val.int 1, Val.int 1, Val.int 1]] ∧
    nLargest false [(Expr.col 0, Expr.col 0)] demoDb 1 = [[Val.int 7, Val.int 2, Val.int 2, Val.int 4]] ∧
    preFilterTotal false [] demoDb = 16 := by
  decide +kernel

/-- two tables, two keys (one of them NULL on the right for the second row): only (x, p) joins. -/
example : preFilterTotal true [(Expr.col 0, Expr.col 0), (Expr.col 1, Expr.col 1)]
    (Db.set (Db.set (fun _ => []) "input_0" [[Val.str "x", Val.str "p"], [Val.str "x", Val.str "q"], [Val.str "x", Val.str "p"]])
      "input_1" [[Val.str "x", Val.str "p"], [Val.str "x", Val.null], [Val.str "y", Val.str "p"]]) = 2 := by
  decide +kernel

/-- two input tables under link_and_dedupe: the concatenation has the alias in column 0, the key is column 1 -/
example : totalOf ((runStmts (Db.set (Db.set (fun _ => []) "a" [[Val.int 7], [Val.int 9]]) "b" [[Val.int 7], [Val.null]])
      (selfCountStmts 1 ["a", "b"] [(Expr.col 1, Expr.col 1)])) nameTotal) = 5 ∧
    concatRows ["a", "b"] (Db.set (Db.set (fun _ => []) "a" [[Val.int 7], [Val.int 9]]) "b" [[Val.int 7], [Val.null]])
      = [[Val.str "a", Val.int 7], [Val.str "a", Val.int 9], [Val.str "b", Val.int 7], [Val.str "b", Val.null]] := by
  decide +kernel

/-- row counts per dataset: datasets `a, b, a` (column 0) -/
example : rowCounts false (Expr.col 0) (Db.set (fun _ => []) "__splink__df_concat" [[Val.str "a"], [Val.str "b"], [Val.str "a"]])
      = [[Val.int 2], [Val.int 1]] ∧
    countsOf (rowCounts false (Expr.col 0) (Db.set (fun _ => []) "__splink__df_concat" [[Val.str "a"], [Val.str "b"], [Val.str "a"]]))
      = [2, 1] ∧
    rowCounts true (Expr.col 0) (Db.set (fun _ => []) "__splink__df_concat" [[Val.str "a"], [Val.str "b"], [Val.str "a"]])
      = [[Val.int 3]] := by
  decide +kernel

/-- an empty result: `sum` over no rows is NULL, which the Python code reads as 0. -/
example : (runStmts (Db.set (fun _ => []) "__splink__df_concat" [[Val.null]])
      (countStmts false [(Expr.col 0, Expr.col 0)])) "__splink__total_of_block_counts" = [[Val.null]] ∧
    preFilterTotal false [(Expr.col 0, Expr.col 0)] (Db.set (fun _ => []) "__splink__df_concat" [[Val.null]]) = 0 := by
  decide +kernel

end SplinkVerif.C14Sql
