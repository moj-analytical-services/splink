import SplinkVerif.Lemmas.Score
import SplinkVerif.Generated.Arith
import SplinkVerif.Lemmas.ArithBridge
/-!
# C02 — scores follow the Fellegi–Sunter formula with the model's parameters

Property theorems about `Model/Score.lean` (the model of the CASE statements
and arithmetic that `predict()` emits).  The logic theorems (`gamma_*`) hold for
every number type; the arithmetic theorems are proved at `ℝ`
(`Lemmas.Score.instNumReal`: `pow = Real.rpow`, `log2 = Real.logb 2`), the same
definitions the driver runs at `Float`.  Floating-point rounding is the runtime
behaviour the model cannot exhibit.
-/
namespace SplinkVerif.C02
open SplinkVerif SplinkVerif.Score

/-! ## Level selection: the first level whose condition is TRUE -/

/-- The level at position `k` is assigned when its condition is TRUE (or it is the
`ELSE` level) and no earlier level fired: conditions that are FALSE **or NULL**
do not fire. -/
theorem gamma_first_true {α : Type} (c : Comparison α) (gs : List B3) (k : Nat) (l : Level α)
    (hk : c[k]? = some l)
    (hfire : l.isElse = true ∨ ∃ g, gs[k]? = some g ∧ B3.isTrue g = true)
    (hprev : ∀ j l', j < k → c[j]? = some l' →
      l'.isElse = false ∧ ∃ g, gs[j]? = some g ∧ B3.isTrue g = false) :
    gamma c gs = some l.cvv :=
  Lemmas.Score.gamma_first_true c gs k l hk hfire hprev

/-- With the null level listed first the value is −1 exactly when its condition holds. -/
theorem gamma_null_first {α : Type} (nl : Level α) (rest : Comparison α) (g : B3) (gs : List B3)
    (hn : nl.isElse = false) (hv : nl.cvv = -1) (hrest : ∀ l ∈ rest, l.cvv ≠ -1) :
    gamma (nl :: rest) (g :: gs) = some (-1) ↔ B3.isTrue g = true := by
  rw [Lemmas.Score.gamma_cons_cons rest g gs hn, hv]
  split
  · next hg => exact ⟨fun _ => hg, fun _ => rfl⟩
  · next hg =>
    refine ⟨fun h => ?_, fun h => absurd h hg⟩
    obtain ⟨l, hl, hlv⟩ := Lemmas.Score.gamma_mem _ _ _ h
    exact absurd hlv (hrest l hl)

/-- A comparison that contains an `ELSE` level assigns some level to every pair
(one condition outcome per level is supplied: `c.length ≤ gs.length`). -/
theorem gamma_total {α : Type} (c : Comparison α) (gs : List B3)
    (helse : ∃ l ∈ c, l.isElse = true) (hlen : c.length ≤ gs.length) :
    (gamma c gs).isSome = true :=
  Lemmas.Score.gamma_total c gs helse hlen

/-! ## Term-frequency adjustment -/

/-- Both CASE shapes of the divisor compute `max(tf_l, tf_r, minimum_u)`. -/
theorem tf_divisor_eq_max (minU a b : ℝ) (ha : 0 ≤ a) (hb : 0 ≤ b) (hm : 0 ≤ minU) :
    tfDivisor minU a b = max (max a b) minU := by
  by_cases h1 : minU = 0
  · subst h1
    -- only here is a sign needed, and one non-negative term frequency is enough
    rw [Lemmas.Score.tfDivisor_zero, max_eq_left (le_max_of_le_left ha)]
  · exact Lemmas.Score.tfDivisor_of_ne_zero h1 a b

/-- The documented factor `(u_exact / max(tf_l, tf_r, minimum_u)) ^ weight` for a
level that carries a TF adjustment, when both term frequencies are present. -/
theorem tf_adjustment_formula (l : Level ℝ) (t : TF ℝ) (tfl tfr : Nat → Option ℝ) (a b : ℝ)
    (ht : l.tf = some t) (hcv : l.cvv ≠ -1) (hw : t.weight ≠ 0) (he : l.isElse = false)
    (hl : tfl t.col = some a) (hr : tfr t.col = some b)
    (ha : 0 ≤ a) (hb : 0 ≤ b) (hm : 0 ≤ t.minU) :
    levelTfAdj l tfl tfr = Real.rpow (t.uExact / max (max a b) t.minU) t.weight := by
  have hl' : (tfl t.col).orElse (fun _ => tfr t.col) = some a := by
    rw [hl]
    rfl
  have hr' : (tfr t.col).orElse (fun _ => tfl t.col) = some b := by
    rw [hr]
    rfl
  rw [Lemmas.Score.levelTfAdj_active l t tfl tfr a b ht hcv hw he hl' hr',
    tf_divisor_eq_max t.minU a b ha hb hm]

/-- With one term frequency missing (a registered lookup table without that value)
the other one is used on both sides. -/
theorem tf_adjustment_one_missing (l : Level ℝ) (t : TF ℝ) (tfl tfr : Nat → Option ℝ) (a : ℝ)
    (ht : l.tf = some t) (hcv : l.cvv ≠ -1) (hw : t.weight ≠ 0) (he : l.isElse = false)
    (hl : tfl t.col = some a) (hr : tfr t.col = none) (ha : 0 ≤ a) (hm : 0 ≤ t.minU) :
    levelTfAdj l tfl tfr = Real.rpow (t.uExact / max a t.minU) t.weight := by
  have hl' : (tfl t.col).orElse (fun _ => tfr t.col) = some a := by
    rw [hl]
    rfl
  -- the right side is NULL, so its `COALESCE` falls through to the left one
  have hr' : (tfr t.col).orElse (fun _ => tfl t.col) = some a := by
    rw [hr, hl]
    rfl
  rw [Lemmas.Score.levelTfAdj_active l t tfl tfr a a ht hcv hw he hl' hr',
    tf_divisor_eq_max t.minU a a ha ha hm, max_self]

/-- No adjustment (factor 1) for the null level, a level without TF settings, a
weight of 0, the `ELSE` level, or when both term frequencies are missing. -/
theorem tf_adjustment_is_one (l : Level ℝ) (tfl tfr : Nat → Option ℝ)
    (h : l.cvv = -1 ∨ l.tf = none ∨ (∃ t, l.tf = some t ∧ t.weight = 0) ∨ l.isElse = true ∨
         (∃ t, l.tf = some t ∧ tfl t.col = none ∧ tfr t.col = none)) :
    levelTfAdj l tfl tfr = 1 := by
  unfold levelTfAdj
  -- each disjunct decides one test of `levelTfAdj` towards the branch that returns `one`
  rcases h with h | h | ⟨t, ht, hw⟩ | h | ⟨t, ht, hl, hr⟩
  · simp [h]
  · simp [h]
  · simp [ht, hw]
  · -- `isElse` is tested inside the `some` branch of the match on `l.tf`
    cases htf : l.tf with
    | none => simp
    | some t => simp [h]
  · simp [ht, hl, hr]

/-! ## The score -/

/-- The retained intermediate columns multiply to the final Bayes factor: with all
terms finite, `bf = prior/(1-prior) · Π termᵢ`. -/
theorem intermediate_columns_multiply (prior : ℝ) (xs : List ℝ) :
    product prior (xs.map fun x => some (Fac.fin x)) =
      some (Fac.fin (prior / (1 - prior) * xs.prod)) :=
  Lemmas.Score.product_fin prior xs

/-- Fellegi–Sunter in additive form: `match_weight = log2(prior odds) + Σ log2 termᵢ`
for positive finite terms (the waterfall chart's bars add up to the weight). -/
theorem score_formula (prior : ℝ) (xs : List ℝ) (hp : 0 < prior) (hp1 : prior < 1)
    (hx : ∀ x ∈ xs, 0 < x) :
    (product prior (xs.map fun x => some (Fac.fin x))).map weightOf =
      some (Fac.fin (Real.logb 2 (prior / (1 - prior)) + (xs.map (Real.logb 2)).sum)) := by
  have hodds : 0 < prior / (1 - prior) := div_pos hp (sub_pos.mpr hp1)
  rw [Lemmas.Score.product_fin, ← Lemmas.Score.logb_list_prod xs hx,
    ← Real.logb_mul hodds.ne' (List.prod_pos hx).ne']
  rfl

/-- A level contributes `log2 (m/u)`, and its TF factor contributes
`weight · log2 (u_exact / divisor)`. -/
theorem level_contribution (m u uE d w : ℝ) (hm : 0 < m) (hu : 0 < u) (hE : 0 < uE) (hd : 0 < d) :
    Real.logb 2 (m / u) = Real.logb 2 m - Real.logb 2 u ∧
    Real.logb 2 (Real.rpow (uE / d) w) = w * Real.logb 2 (uE / d) :=
  ⟨Real.logb_div hm.ne' hu.ne', Real.logb_rpow_eq_mul_logb_of_pos (div_pos hE hd)⟩

/-- `match_probability = bf/(1+bf) = 2^w/(1+2^w)` lies strictly between 0 and 1 for a
finite positive Bayes factor. -/
theorem prob_is_logistic (ts : List (Option (Fac ℝ))) (bf : ℝ) (hbf : 0 < bf)
    (hfin : ∀ t ∈ ts, ∀ f, t = some f → f.isInf = false) :
    probOf ts (Fac.fin bf) = Real.rpow 2 (Real.logb 2 bf) / (1 + Real.rpow 2 (Real.logb 2 bf)) ∧
    0 < probOf ts (Fac.fin bf) ∧ probOf ts (Fac.fin bf) < 1 := by
  have h2 : Real.rpow 2 (Real.logb 2 bf) = bf := Real.rpow_logb two_pos one_lt_two.ne' hbf
  rw [Lemmas.Score.probOf_fin ts bf hfin, h2]
  exact ⟨rfl, Lemmas.Score.div_one_add_bounds hbf⟩

/-- An infinite factor (a level with `u = 0`) gives weight `Infinity` and probability 1. -/
theorem infinite_factor (prior : ℝ) (ts : List (Option (Fac ℝ)))
    (hall : ∀ t ∈ ts, t ≠ none) (hinf : some Fac.inf ∈ ts) :
    (∃ bf, product prior ts = some bf ∧ bf.isInf = true ∧ (weightOf bf).isInf = true ∧
      probOf ts bf = 1) :=
  ⟨Fac.inf, Lemmas.Score.product_of_inf_mem prior ts hall hinf, rfl, rfl,
    Lemmas.Score.probOf_of_inf_mem hinf _⟩

/-- `levelBF`: null level 1, `u = 0` infinite, otherwise `m/u` — exactly the level's
own parameters, nothing else. -/
theorem level_bf_uses_level_params (l : Level ℝ) :
    levelBF l = if l.isNull then Fac.fin 1 else if l.u = 0 then Fac.inf else Fac.fin (l.m / l.u) :=
  Lemmas.Score.levelBF_eq l

/-! ## Threshold -/

/-- A weight threshold keeps exactly the rows with `match_weight ≥ t` (stated of a finite weight; an infinite one
passes by the definition of `keep`). -/
theorem threshold_weight_exact (t : ℝ) (s : Scored ℝ) (w : ℝ) (hw : s.weight = some (Fac.fin w)) :
    keep (Threshold.weight t) s = true ↔ t ≤ w :=
  Lemmas.Score.keep_fin rfl hw

/-- A probability threshold `p ∈ (0,1)` keeps exactly the rows whose match
probability `bf/(1+bf)` is at least `p`; `p = 0` keeps every row. -/
theorem threshold_prob_exact (p bf : ℝ) (s : Scored ℝ) (hp : 0 < p) (hp1 : p < 1) (hbf : 0 < bf)
    (hw : s.weight = some (Fac.fin (Real.logb 2 bf))) :
    keep (Threshold.prob p) s = true ↔ p ≤ bf / (1 + bf) := by
  have h1p : 0 < 1 - p := sub_pos.mpr hp1
  have h1b : 0 < 1 + bf := add_pos one_pos hbf
  have ht := (Lemmas.Score.thresholdAsWeight_prob p).trans (if_neg hp.ne')
  -- both sides say `p + p * bf ≤ bf`
  rw [Lemmas.Score.keep_fin ht hw, Real.logb_le_logb one_lt_two (div_pos hp h1p) hbf, div_le_iff₀ h1p,
    le_div_iff₀ h1b, mul_sub, mul_one, mul_add, mul_one, le_sub_iff_add_le, mul_comm]

theorem threshold_zero_keeps_all (s : Scored ℝ) : keep (Threshold.prob (0 : ℝ)) s = true := by
  unfold keep
  rw [Lemmas.Score.thresholdAsWeight_prob, if_pos rfl]

/-! ## The threshold arguments of `predict` (translated source) -/

/-- **A threshold that is given is applied** — about the *translated* `threshold_args_to_match_weight`
(`Generated/Arith.lean`, regenerated from `splink/internals/misc.py` on every run), for every number type and
every value: a match weight is passed through unchanged (boundary values such as `0` included — it is never
dropped), a probability `p` becomes `log2 (p / (1 - p))` except for the documented `p = 0` (= keep everything),
no argument means no threshold, both arguments raise. -/
theorem threshold_args_weight_applied {β : Type} [ANum β] (p w : β) :
    Gen.threshold_args_to_match_weight none (some w) = some (some w) ∧
    Gen.threshold_args_to_match_weight (some p) none =
      (if ANum.eq p (ANum.ofNat 0) then some none
       else some (some (ANum.log2 (if !(ANum.eq p (ANum.ofNat 1)) then ANum.div p (ANum.sub (ANum.ofNat 1) p) else ANum.inf)))) ∧
    Gen.threshold_args_to_match_weight (none : Option β) none = some none ∧
    Gen.threshold_args_to_match_weight (some p) (some w) = none := by
  refine ⟨rfl, ?_, rfl, rfl⟩
  simp only [Gen.threshold_args_to_match_weight, Gen.prob_to_match_weight, Gen.prob_to_bayes_factor,
    Option.isSome_some, Option.isSome_none, Bool.and_false, Bool.false_eq_true, if_false, Option.getD_some]

/-! ## The probability/odds/weight helpers (translated source) are the model's arithmetic -/

/-- The prior factor that `predict` inlines into its SQL is computed by the Python helper `prob_to_bayes_factor`
(translated source, regenerated every run); for every prior other than 1 it is the model's `priorOdds`. -/
theorem prior_factor_translated (p : ℝ) (hp : p ≠ 1) :
    Gen.prob_to_bayes_factor p = some (Score.priorOdds p) :=
  Lemmas.ArithBridge.prior_factor_translated p hp

/-- … and the match weight the helpers report for a probability is `log2` of those odds. -/
theorem prob_to_match_weight_translated (p : ℝ) (hp : p ≠ 1) :
    Gen.prob_to_match_weight p = some (Real.logb 2 (p / (1 - p))) := by
  unfold Gen.prob_to_match_weight
  rw [prior_factor_translated p hp]
  rfl

/-- weight -> probability used by the threshold helpers (`bayes_factor_to_prob (match_weight_to_bayes_factor w)`,
translated source): `2^w / (1 + 2^w)`. -/
theorem weight_to_prob_translated (w : ℝ) :
    (Gen.match_weight_to_bayes_factor w).bind Gen.bayes_factor_to_prob = some ((2:ℝ)^w / (1 + (2:ℝ)^w)) := by
  -- the translated source has `ANum.ofNat 1` for Python's literal `1`, over ℝ the cast `((1 : ℕ) : ℝ)`
  show some ((2 : ℝ) ^ w / (((1 : ℕ) : ℝ) + (2 : ℝ) ^ w)) = _
  rw [Nat.cast_one]

/-- That map is strictly increasing in `w`: a match-weight threshold is equivalent to its probability. -/
theorem weight_to_prob_strictMono : StrictMono fun w : ℝ => (2:ℝ)^w / (1 + (2:ℝ)^w) :=
  fun a _ hab => Lemmas.Score.div_one_add_lt (Real.rpow_pos_of_pos two_pos a)
    (Real.rpow_lt_rpow_of_exponent_lt one_lt_two hab)

/-- … and its values lie strictly between 0 and 1. -/
theorem weight_to_prob_bounds (w : ℝ) :
    0 < (2:ℝ)^w / (1 + (2:ℝ)^w) ∧ (2:ℝ)^w / (1 + (2:ℝ)^w) < 1 :=
  Lemmas.Score.div_one_add_bounds (Real.rpow_pos_of_pos two_pos w)

/-- Non-vacuity (logic part, evaluated): null level, exact level, else level; a
NULL condition on the exact level falls through to ELSE. -/
example :
    gamma (α := Nat)
      [ { isNull := true, isElse := false, cvv := -1, m := 0, u := 0, tf := none },
        { isNull := false, isElse := false, cvv := 1, m := 9, u := 1, tf := none },
        { isNull := false, isElse := true, cvv := 0, m := 1, u := 9, tf := none } ]
      [some false, none, some true] = some 0 := by decide +kernel

end SplinkVerif.C02
