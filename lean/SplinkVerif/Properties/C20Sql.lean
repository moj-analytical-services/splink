import SplinkVerif.Lemmas.DescSql
import SplinkVerif.Properties.C20
/-!
# C20 at the level of the emitted SQL: term frequencies and completeness

`Generated/DescSql.lean` holds the statement `term_frequencies_for_single_column_sql` emits and the per-column
sub-select of `completeness_data` (T-sql translator, regenerated on every run: a change to either SQL template changes
that file and these proofs stop checking); `Model/DescSql.lean` evaluates them with the SQL semantics `Rel.eval` on the
encoded column (`t_in`: one column `v`; `cws_in`: source dataset and `v`; a cell `none` is SQL NULL).  The statements
return the rows of `Descriptive.tfTable` / `Descriptive.completenessCol` **row for row**, each exact pair (numerator,
denominator) of the model read as the exact number `num / den` the SQL divides out; what is said about the returned rows
is then read off `C20`'s theorems about the model.

No hypothesis on the inputs is needed: NULLs, duplicates, the empty and the all-NULL column are covered (then the TF
statement returns no row on both sides; the scalar subquery `select count(v)` is 0 but is never divided by because the
cross join has no left row), and `sd` / `col` may have different lengths (`zip` truncates on both sides).  Two places
where SQL and model differ in form and agree in value: `count(*) - count(v)` is an integer subtraction in SQL and a
truncated subtraction of naturals in the model (`count(v) ≤ count(*)`), and `count(v) * 1.0 / count(*)` is never a
division by zero (every group has a row).

The `ORDER BY count(*) DESC` of the completeness sub-select only orders the presentation and is not part of the
regenerated term; the statements about the real output are the `Perm` forms.
-/
namespace SplinkVerif.C20Sql
open SplinkVerif SplinkVerif.Rel
open SplinkVerif.Descriptive (countNonNull nonNull TfRow ComplRow)
open SplinkVerif.Lemmas.DescSql (encTf encCompl)

/-! ### Encodings (definitional unfoldings, for reference) -/

/-- A cell as a SQL value. -/
theorem encCell_def : DescSql.encCell none = Val.null ∧ ∀ k : Nat, DescSql.encCell (some k) = Val.int (k : Int) :=
  ⟨rfl, fun _ => rfl⟩

/-- A `TfRow` in the SQL's column order (v, tf_v). -/
theorem encTf_def (r : TfRow) : encTf r = [Val.int r.value, Val.rat ((r.num : Rat) / r.den)] := rfl

/-- A `ComplRow` in the SQL's column order
(source_dataset, column_name, total_null_rows, total_rows_inc_nulls, completeness). -/
theorem encCompl_def (r : ComplRow) :
    encCompl r = [Val.int r.sd, Val.str "v", Val.int r.nullRows, Val.int r.totalRows,
      Val.rat ((r.nonNullRows : Rat) / r.totalRows)] := rfl

/-! ### Refinement: term frequencies -/

/-- **Exact form**: the same list, row for row (`GROUP BY` and the model's `groupCount` both list the values in the
order of first occurrence). -/
theorem sql_tf_table_eq_model (col : List (Option Nat)) :
    DescSql.tfTable col
      = (Descriptive.tfTable col).map fun r => [Val.int r.value, Val.rat ((r.num : Rat) / r.den)] := by
  open Lemmas.Rel Lemmas.DescSql in
  unfold DescSql.tfTable Gen.DescSql.tfTable
  rw [eval_project, eval_join, eval_groupBy, eval_groupBy, eval_filter, eval_table, set_same, filter_notNull,
    groupRows_map [Expr.col 0] (List.cons_ne_nil _ _) _ encKey id encKey encKey_inj (fun _ => rfl), List.map_id,
    count_eval, Lemmas.Rel.joinRows_scalar, List.map_map, List.map_map, Lemmas.Desc.tfTable_as_map, List.map_map]
  apply List.map_congr_left
  intro k hk
  have hpos := (countNonNull_pos_iff col).2 ⟨k, (Lemmas.Desc.mem_nonNull col k).1 (List.mem_eraseDups.1 hk)⟩
  simp only [Function.comp, List.cons_append, List.nil_append, List.map_cons, List.map_nil, Agg.eval, List.length_map,
    encKey]
  exact tf_expr_eval k _ _ hpos

/-- **Refinement.**  For every column the regenerated TF statement returns a permutation of the rows of
`Descriptive.tfTable`, as (value, exact number `num / den`). -/
theorem sql_tf_table_perm_model (col : List (Option Nat)) :
    (DescSql.tfTable col).Perm
      ((Descriptive.tfTable col).map fun r => [Val.int r.value, Val.rat ((r.num : Rat) / r.den)]) :=
  .of_eq (sql_tf_table_eq_model col)

/-- A row is returned by the SQL iff it is `(k, count(v = k) / count(v))` for a value `k` occurring in the column:
`tf` = relative frequency among the non-NULL cells; NULL never has a row (`C20.tf_relative_frequency` at the level of
the SQL). -/
theorem sql_tf_mem_iff (col : List (Option Nat)) (row : Row) :
    row ∈ DescSql.tfTable col ↔
      ∃ k : Nat, some k ∈ col ∧
        row = [Val.int (k : Int),
          Val.rat (((col.filter fun v => v == some k).length : Rat) / (countNonNull col : Rat))] := by
  rw [sql_tf_table_eq_model, List.mem_map]
  constructor
  · rintro ⟨r, hr, rfl⟩
    obtain ⟨hv, hn, hd⟩ := (C20.tf_relative_frequency col r).mp hr
    exact ⟨r.value, hv, by rw [hn, hd]⟩
  · rintro ⟨k, hk, rfl⟩
    exact ⟨⟨k, _, _⟩, (C20.tf_relative_frequency col _).mpr ⟨hk, rfl, rfl⟩, rfl⟩

/-- Every row the SQL returns is (an integer, an exact number in (0, 1]): no NULL key, no NULL from a division by
zero, no zero and no above-one frequency. -/
theorem sql_tf_in_unit_interval (col : List (Option Nat)) :
    ∀ row ∈ DescSql.tfTable col, ∃ (k : Nat) (q : Rat),
      row = [Val.int (k : Int), Val.rat q] ∧ 0 < q ∧ q ≤ 1 := by
  intro row hrow
  obtain ⟨k, hk, rfl⟩ := (sql_tf_mem_iff col row).1 hrow
  refine ⟨k, _, rfl, Lemmas.DescSql.share_pos_le (Lemmas.Desc.group_pos col id hk) ?_⟩
  -- the cells holding `k` are among the non-NULL cells
  exact (List.monotone_filter_right col fun v hv => by rw [beq_iff_eq.1 hv]; rfl).length_le

/-- The same without SQL's `sum`: the `tf_v` column is a list of exact numbers that add up to 1. -/
theorem sql_tf_column_sums_to_one (col : List (Option Nat)) (h : ∃ k : Nat, some k ∈ col) :
    ∃ qs : List Rat, ((DescSql.tfTable col).map fun row => row.getD 1 Val.null) = qs.map Val.rat ∧ qs.sum = 1 := by
  obtain ⟨_, hsum, hrow⟩ := C20.tf_sums_to_one col
  refine ⟨_, ?_, Lemmas.DescSql.shares_of_total (fun r : TfRow => r.num) (fun r => r.den) (countNonNull col) _
    (fun r hr => (hrow r hr).1) hsum ((Lemmas.DescSql.countNonNull_pos_iff col).mpr h)⟩
  rw [sql_tf_table_eq_model, List.map_map, List.map_map]
  rfl

/-- **`select sum(tf_v)` over the returned table is exactly 1** when the column has a non-NULL cell
(`C20.tf_sums_to_one` at the level of the SQL, with SQL's own `sum`). -/
theorem sql_tf_sums_to_one (col : List (Option Nat)) (h : ∃ k : Nat, some k ∈ col) :
    sumVals ((DescSql.tfTable col).map fun row => row.getD 1 Val.null) = Val.rat 1 := by
  obtain ⟨qs, hq, hs⟩ := sql_tf_column_sums_to_one col h
  have hne : qs ≠ [] := by
    rintro rfl
    exact absurd hs (by decide)
  rw [hq, Lemmas.Rel.sumVals_map_rat (fun q => q) qs, if_neg hne, List.map_id', hs]

/-- One row per distinct non-NULL value: the `v` column is the duplicate-free list of the values, in the order of first
occurrence. -/
theorem sql_tf_one_row_per_value (col : List (Option Nat)) :
    ((DescSql.tfTable col).map fun row => row.getD 0 Val.null)
      = (nonNull col).eraseDups.map fun (k : Nat) => Val.int (k : Int) := by
  rw [sql_tf_table_eq_model, ← Lemmas.Desc.tfTable_values, List.map_map, List.map_map]
  rfl

/-- A column with no non-NULL cell (empty or all NULL) gives the empty table; the `count(v) = 0` of the scalar subquery
is never divided by. -/
theorem sql_tf_no_value_no_row (col : List (Option Nat)) (h : ∀ k : Nat, some k ∉ col) :
    DescSql.tfTable col = [] :=
  List.eq_nil_iff_forall_not_mem.2 fun row hrow =>
    let ⟨k, hk, _⟩ := (sql_tf_mem_iff col row).1 hrow
    h k hk

/-! ### Refinement: completeness -/

/-- **Exact form**: the same list, row for row (datasets in the order of first occurrence on both sides; the
`ORDER BY count(*) DESC` of the real statement is presentation only and not part of the term). -/
theorem sql_completeness_eq_model (sd : List Nat) (col : List (Option Nat)) :
    DescSql.completenessCol sd col
      = (Descriptive.completenessCol sd col).map fun r =>
        [Val.int r.sd, Val.str "v", Val.int r.nullRows, Val.int r.totalRows,
         Val.rat ((r.nonNullRows : Rat) / r.totalRows)] := by
  open Lemmas.Rel Lemmas.DescSql in
  unfold DescSql.completenessCol Gen.DescSql.completenessCol
  rw [eval_project, eval_groupBy, eval_table, set_same]
  show ((groupRows _ _ ((sd.zip col).map encPair)).map _) = _
  rw [complGroup_eval, List.map_map, Lemmas.Desc.completenessCol_eq, List.map_map]
  apply List.map_congr_left
  intro d hd
  obtain ⟨r, hr, rfl⟩ := List.mem_map.1 (List.mem_eraseDups.1 hd)
  have hle := Nat.le.intro (Lemmas.Desc.length_filter_and_not (sd.zip col) (fun x => x.1 == r.1) (fun x => x.2.isSome))
  have hpos := Lemmas.Desc.group_pos (sd.zip col) (fun x => x.1) hr
  exact compl_expr_eval r.1 _ _ hle hpos

/-- **Refinement.**  For every `sd` and `col` (of any lengths: no length hypothesis is needed) the regenerated
completeness sub-select returns a permutation of the rows of `Descriptive.completenessCol`, as
(source_dataset, 'v', total_null_rows, total_rows_inc_nulls, exact number `nonNullRows / totalRows`). -/
theorem sql_completeness_perm_model (sd : List Nat) (col : List (Option Nat)) :
    (DescSql.completenessCol sd col).Perm
      ((Descriptive.completenessCol sd col).map fun r =>
        [Val.int r.sd, Val.str "v", Val.int r.nullRows, Val.int r.totalRows,
         Val.rat ((r.nonNullRows : Rat) / r.totalRows)]) :=
  .of_eq (sql_completeness_eq_model sd col)

/-- Every row the SQL returns: five typed columns; `total_rows_inc_nulls` is the number of records of the dataset and
positive; `total_null_rows` is the number of its records with a NULL cell, between 0 and the total; and
**`completeness = 1 − total_null_rows / total_rows_inc_nulls`, in [0, 1]** (`C20.completeness_def` at the level of the
SQL). -/
theorem sql_completeness_is_one_minus_null_share (sd : List Nat) (col : List (Option Nat)) :
    ∀ row ∈ DescSql.completenessCol sd col, ∃ (d nulls total : Nat) (c : Rat),
      row = [Val.int (d : Int), Val.str "v", Val.int (nulls : Int), Val.int (total : Int), Val.rat c] ∧
      total = ((sd.zip col).filter fun r => r.1 == d).length ∧
      nulls = ((sd.zip col).filter fun r => r.1 == d && r.2.isNone).length ∧
      0 < total ∧ nulls ≤ total ∧
      c = 1 - (nulls : Rat) / (total : Rat) ∧ 0 ≤ c ∧ c ≤ 1 := by
  intro row hrow
  rw [sql_completeness_eq_model, List.mem_map] at hrow
  obtain ⟨r, hr, rfl⟩ := hrow
  obtain ⟨h1, h2, h3, h4⟩ := C20.completeness_def sd col r hr
  have hsplit := Lemmas.Desc.length_filter_and_not (sd.zip col) (fun x => x.1 == r.sd) (fun x => x.2.isSome)
  simp only [Option.not_isSome] at hsplit
  rw [← h1, ← h2] at hsplit
  obtain ⟨e1, e2, e3⟩ := Lemmas.DescSql.share_compl h3 h4
  exact ⟨r.sd, r.nullRows, r.totalRows, _, rfl, h1,
    Nat.add_left_cancel ((Nat.add_comm _ _).trans (h3.trans hsplit.symm)), h4, Nat.le.intro h3, e1, e2, e3⟩

/-- One row per source dataset that has a record (`C20.completeness_covers`): the `source_dataset` column is the
duplicate-free list of the datasets, in the order of first occurrence. -/
theorem sql_completeness_one_row_per_dataset (sd : List Nat) (col : List (Option Nat)) :
    ((DescSql.completenessCol sd col).map fun row => row.getD 0 Val.null)
      = ((sd.zip col).map (·.1)).eraseDups.map fun (d : Nat) => Val.int (d : Int) := by
  rw [sql_completeness_eq_model, Lemmas.Desc.completenessCol_eq, List.map_map, List.map_map]
  rfl

/-- `select sum(total_rows_inc_nulls)` over the result is the number of records (when there is one; `sum` over no row
is NULL). -/
theorem sql_completeness_totals_add_up (sd : List Nat) (col : List (Option Nat)) (h : sd.zip col ≠ []) :
    sumVals ((DescSql.completenessCol sd col).map fun row => row.getD 3 Val.null)
      = Val.int ((sd.zip col).length : Int) := by
  obtain ⟨_, hall, hsum⟩ := C20.completeness_covers sd col
  have hne : Descriptive.completenessCol sd col ≠ [] := by
    obtain ⟨r, hr⟩ := List.exists_mem_of_ne_nil _ h
    obtain ⟨row, hrow, _⟩ := hall r hr
    exact List.ne_nil_of_mem hrow
  rw [sql_completeness_eq_model, List.map_map]
  exact (Lemmas.Rel.sumVals_map_nat (fun r : ComplRow => r.totalRows) _).trans (by rw [if_neg hne, hsum])

/-! ### Row order of the registered tables -/

/-- Row order of `t_in` does not matter (up to the order of the result): on any permutation of the encoded column the
TF statement returns a permutation of the model's rows. -/
theorem sql_tf_input_order_irrelevant (col : List (Option Nat)) (t : List Row)
    (h : t.Perm (col.map fun v => [DescSql.encCell v])) :
    (Gen.DescSql.tfTable.eval (Db.set (fun _ => []) "t_in" t)).Perm ((Descriptive.tfTable col).map encTf) :=
  (Lemmas.Rel.eval_set_perm Gen.DescSql.tfTable "t_in" h
    (by simp [Gen.DescSql.tfTable, Lemmas.Rel.AggsOK, Lemmas.Rel.AggOK])).trans (sql_tf_table_perm_model col)

/-- Row order of `cws_in` does not matter (up to the order of the result). -/
theorem sql_completeness_input_order_irrelevant (sd : List Nat) (col : List (Option Nat)) (t : List Row)
    (h : t.Perm ((sd.zip col).map fun p => [Val.int (p.1 : Int), DescSql.encCell p.2])) :
    (Gen.DescSql.completenessCol.eval (Db.set (fun _ => []) "cws_in" t)).Perm
      ((Descriptive.completenessCol sd col).map encCompl) :=
  (Lemmas.Rel.eval_set_perm Gen.DescSql.completenessCol "cws_in" h
    (by simp [Gen.DescSql.completenessCol, Lemmas.Rel.AggsOK, Lemmas.Rel.AggOK])).trans
    (sql_completeness_perm_model sd col)

/-! ### Non-vacuity -/

/-- Column [7, NULL, 9, 7] through the regenerated statement: tf(7) = 2/3, tf(9) = 1/3 (the NULL is neither a group
nor counted in the denominator) — `C20`'s example. -/
example : DescSql.tfTable [some 7, none, some 9, some 7]
    = [[Val.int 7, Val.rat (2 / 3)], [Val.int 9, Val.rat (1 / 3)]] := by
  decide +kernel

/-- … and the model's rows encoded. -/
example : (Descriptive.tfTable [some 7, none, some 9, some 7]).map encTf
    = [[Val.int 7, Val.rat (2 / 3)], [Val.int 9, Val.rat (1 / 3)]] := by
  decide +kernel

/-- All-NULL and empty column: no row. -/
example : DescSql.tfTable [none, none] = [] ∧ DescSql.tfTable [] = [] := by
  decide +kernel

/-- The scalar subquery alone does return 0 on an all-NULL column, and dividing by it would be NULL — harmless, since
the cross join then has no left row. -/
example :
    (Rel.groupBy [] [Agg.count (Expr.col 0)] (Rel.table "t_in")).eval
        (Db.set (fun _ => []) "t_in" [[Val.null], [Val.null]]) = [[Val.int 0]] ∧
    Arith.div.eval (Val.rat 1) (Val.int 0) = Val.null := by
  decide +kernel

/-- A single-valued column: tf = 1 (the bound `≤ 1` is attained). -/
example : DescSql.tfTable [some 4, some 4, none] = [[Val.int 4, Val.rat 1]] := by
  decide +kernel

/-- Two datasets, the second all NULL (`C20`'s example): completeness 2/3 and 0, null rows 1 and 1. -/
example : DescSql.completenessCol [0, 0, 1, 0] [some 1, none, none, some 2]
    = [[Val.int 0, Val.str "v", Val.int 1, Val.int 3, Val.rat (2 / 3)],
       [Val.int 1, Val.str "v", Val.int 1, Val.int 1, Val.rat 0]] := by
  decide +kernel

/-- … and the model's rows encoded. -/
example : (Descriptive.completenessCol [0, 0, 1, 0] [some 1, none, none, some 2]).map encCompl
    = [[Val.int 0, Val.str "v", Val.int 1, Val.int 3, Val.rat (2 / 3)],
       [Val.int 1, Val.str "v", Val.int 1, Val.int 1, Val.rat 0]] := by
  decide +kernel

/-- Lists of different lengths: `zip` truncates on both sides (the record without a cell is not counted). -/
example : DescSql.completenessCol [0, 0, 1] [some 1, none]
    = [[Val.int 0, Val.str "v", Val.int 1, Val.int 2, Val.rat (1 / 2)]] ∧
    (Descriptive.completenessCol [0, 0, 1] [some 1, none]).map encCompl
    = [[Val.int 0, Val.str "v", Val.int 1, Val.int 2, Val.rat (1 / 2)]] := by
  decide +kernel

/-- No record: no row. -/
example : DescSql.completenessCol [] [] = [] := by
  decide +kernel

end SplinkVerif.C20Sql
