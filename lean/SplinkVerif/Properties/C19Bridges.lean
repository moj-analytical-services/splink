import SplinkVerif.Lemmas.GraphMetricsBridges
import SplinkVerif.Properties.C19
/-!
# C19 (continued) — the bridge column is fully specified; centralisation ≤ 1 in general

* (A) The driver's stand-in for igraph's `Graph.bridges` (`naiveBridges`: remove edge row `k`, run the
  Boolean-array reachability search `reachLoop` for `nv + 1` rounds) meets `BridgeSpec` for EVERY
  edge list (duplicate rows, self loops, arbitrary vertex numbers).  Hence the bridge flag of the
  model instantiated with `naiveBridges` is specified unconditionally.  That igraph agrees with
  `naiveBridges` stays a correspondence check.
* (B) `cluster_centralisation ≤ 1` holds on every simple graph with a consistent clustering, isolated
  cluster members included; the exact general bound of the numerator is `(k − 2)·maxdeg`.
-/
namespace SplinkVerif.C19B
open SplinkVerif SplinkVerif.GraphMetrics SplinkVerif.Lemmas.GM

/-- The reachability search itself: after `nv + 1` rounds the right endpoint of row `e` is marked
iff it is reachable from the left endpoint in the graph with row `k` removed. -/
theorem search_sound_complete (g : List (Nat × Nat)) (k : Nat) (e : Nat × Nat) (he : e ∈ g) :
    mk (searchFrom g k e) e.2 = true ↔ Reach (AdjL (g.eraseIdx k)) e.1 e.2 := by
  have hinit : ∀ v, mk ((Array.replicate (vbound g) false).setIfInBounds e.1 true) v = true ↔
      v = e.1 := fun v => by
    rw [mk_mark _ (Array.size_replicate.symm ▸ (lt_vbound he).1), mk_replicate]
    exact or_iff_left Bool.false_ne_true
  obtain ⟨r1, r2, r3⟩ := reachLoop_spec (g.eraseIdx k) (vbound g)
    (fun x hx => lt_vbound (List.mem_of_mem_eraseIdx hx)) (vbound g + 1) _
    (Array.size_setIfInBounds.trans Array.size_replicate)
  have hclosed := r3 (by omega)
  unfold searchFrom
  constructor
  · exact r2 e.1 (fun v hv => (hinit v).mp hv ▸ Reach.refl _) e.2
  · generalize e.2 = y
    intro h
    -- the marked set contains the start and is closed under the edges
    induction h with
    | refl => exact r1 _ ((hinit _).mpr rfl)
    | tail _ hadj ih =>
      rcases hadj with hjk | hkj
      · rw [← hclosed _ hjk]
        exact ih
      · rw [hclosed _ hkj]
        exact ih

/-- `naiveBridges` reports edge index `k` iff row `k` exists and its endpoints are not connected in
the multigraph with that row removed — soundness and completeness of the `reachLoop` search, for
every edge list. -/
theorem naiveBridges_meets_spec : BridgeSpec naiveBridges := by
  intro g k
  rw [mem_naiveBridges]
  refine exists_congr fun e => and_congr_right fun he => ?_
  rw [← search_sound_complete g k e (List.mem_of_getElem? he), Bool.not_eq_true]

/-- The same, spelled out. -/
theorem naiveBridges_iff (g : List (Nat × Nat)) (k : Nat) :
    k ∈ naiveBridges g ↔ ∃ e, g[k]? = some e ∧ ¬ Reach (AdjL (g.eraseIdx k)) e.1 e.2 :=
  naiveBridges_meets_spec g k

/-- `naiveBridges` returns distinct indices (the side condition `hB` of
`C19.bridge_flags_on_right_edges` / `C19.one_row_each`). -/
theorem naiveBridges_nodup (g : List (Nat × Nat)) : (naiveBridges g).Nodup :=
  List.Nodup.filter _ List.nodup_range

/-- Unconditional meaning of the bridge flag computed with `naiveBridges`: the `k`-th kept edge is
flagged iff removing that edge row disconnects its endpoints in the ORIGINAL thresholded graph. -/
theorem bridge_flag_def_naive (order : List Nat) (es : List Edge)
    (hmem : ∀ e ∈ es, e.1 ∈ order ∧ e.2 ∈ order) (hnd : es.Nodup) (k : Nat) (hk : k < es.length) :
    relabel order es[k] ∈ bridgeRows naiveBridges (es.map (relabel order)) ↔
      ¬ Reach (AdjL (es.eraseIdx k)) es[k].1 es[k].2 :=
  C19.bridge_flag_def naiveBridges naiveBridges_meets_spec order es hmem hnd k hk

/-- The whole edge table with `naiveBridges`: one row per kept edge, in order, flagged iff removing
the edge disconnects its endpoints (no hypothesis on the bridge finder left). -/
theorem edges_table_naive (order : List Nat) (es : List Edge)
    (hmem : ∀ e ∈ es, e.1 ∈ order ∧ e.2 ∈ order) (hnd : es.Nodup) :
    ∃ t, edgesTable naiveBridges order es = some t ∧ t.length = es.length ∧
      ∀ k (hk : k < es.length), ∃ b, t[k]? = some (es[k].1, es[k].2, b) ∧
        (b = true ↔ ¬ Reach (AdjL (es.eraseIdx k)) es[k].1 es[k].2) := by
  refine ⟨_, C19.bridge_flags_on_right_edges naiveBridges order es hmem hnd naiveBridges_nodup,
    List.length_map _, fun k hk => ⟨_, Lemmas.Lists.getElem?_map_of_lt _ hk, ?_⟩⟩
  rw [decide_eq_true_iff]
  exact bridge_flag_def_naive order es hmem hnd k hk

/-- `2·maxdeg ≤ Σ deg` in every cluster of a loop-free multigraph with a consistent clustering. -/
theorem two_mul_maxdeg_le_sum (n : Nat) (cid : Nat → Nat) (es : List Edge) (c : Nat)
    (hloop : ∀ e ∈ es, e.1 ≠ e.2) (hC : Consistent n cid es) :
    2 * ((members n cid c).map (nodeDegree es)).foldl max 0 ≤
      ((members n cid c).map (nodeDegree es)).sum :=
  Lemmas.GM.two_mul_maxdeg_le_sum n cid es c hloop hC

/-- Exact general bound: the numerator `k·maxdeg − Σ deg` of `cluster_centralisation` is at most
`(k − 2)·maxdeg` (loop-free multigraph, consistent clustering, `k > 2` members). -/
theorem centralisation_bound_general (n : Nat) (cid : Nat → Nat) (es : List Edge) (c : Nat)
    (hloop : ∀ e ∈ es, e.1 ≠ e.2) (hC : Consistent n cid es)
    (hk : (members n cid c).length > 2) :
    let ms := members n cid c
    let k := ms.length
    ∃ z M, (clusterRow (nodesTable n cid es) c).centralisation = some z ∧
      (∀ i ∈ ms, nodeDegree es i ≤ M) ∧ (∃ i ∈ ms, nodeDegree es i = M) ∧
      z.den = (k - 1) * (k - 2) ∧ 0 ≤ z.num ∧ z.num ≤ ((k - 2 : Nat) : Int) * (M : Int) := by
  obtain ⟨z, M, hz, hge, hmem, _, hden, h0, h1⟩ := centralisation_general n cid es c hk
  exact ⟨z, M, hz, hge, hmem, hden, h0, (h1 hC).1 hloop⟩

/-- `0 ≤ cluster_centralisation ≤ 1` on every simple graph with a consistent clustering, for every
cluster of more than two records — the hypothesis "no member is isolated" of
`C19.centralisation_def` is not needed. -/
theorem centralisation_le_one_general (n : Nat) (cid : Nat → Nat) (es : List Edge) (c : Nat)
    (hS : Simple es) (hC : Consistent n cid es) (hk : (members n cid c).length > 2) :
    ∃ z, (clusterRow (nodesTable n cid es) c).centralisation = some z ∧
      0 ≤ z.num ∧ z.num ≤ z.den := by
  obtain ⟨z, _, hz, _, _, _, _, h0, h1⟩ := centralisation_general n cid es c hk
  exact ⟨z, hz, h0, (h1 hC).2 hS⟩

/-- Non-vacuity of part A: a triangle with a pendant edge has exactly the pendant as a bridge;
a duplicated row is never a bridge while a single row is; a self loop is never a bridge; vertex
numbers need not be contiguous. -/
example :
    naiveBridges [(0, 1), (1, 2), (2, 0), (2, 3)] = [3] ∧
    naiveBridges [(0, 1), (1, 0), (1, 2)] = [2] ∧
    naiveBridges [(5, 5), (5, 9)] = [1] ∧
    naiveBridges [] = [] := by
  decide +kernel

/-- Non-vacuity of `bridge_flag_def_naive` / `edges_table_naive`: the example of `C19` with the
real finder instead of the constant `fun _ => [3]`. -/
example :
    edgesTable naiveBridges [3, 1, 0, 2, 5, 4] [(0, 1), (1, 2), (0, 2), (2, 3)] =
      some [(0, 1, false), (1, 2, false), (0, 2, false), (2, 3, true)] := by
  decide +kernel

/-- Non-vacuity of part B.  One cluster `{0,1,2,3}`:
* the star `0-1, 0-2, 0-3` meets the hypotheses and has centralisation `6/6 = 1` (the bound `≤ 1`
  is attained);
* the path `1-0-2` plus the isolated member `3` (a shared `cluster_id` without an edge at this
  threshold) meets the hypotheses, violates "no member is isolated", and has centralisation
  `4/6`, numerator `= (k − 2)·maxdeg = 2·2` (the general bound is attained);
* `Simple` cannot be dropped: three copies of the row `0-1` in the cluster `{0,1,2}` give `3/2 > 1`. -/
example :
    let cid : Nat → Nat := fun _ => 0
    let star : List Edge := [(0, 1), (0, 2), (0, 3)]
    let path : List Edge := [(1, 0), (0, 2)]
    let triple : List Edge := [(0, 1), (0, 1), (0, 1)]
    ((allNodes star).Nodup ∧ (∀ e ∈ star, e.1 < 4 ∧ e.2 < 4 ∧ cid e.1 = cid e.2) ∧
      (members 4 cid 0).length = 4 ∧
      (clusterRow (nodesTable 4 cid star) 0).centralisation = some ⟨6, 6⟩) ∧
    ((allNodes path).Nodup ∧ (∀ e ∈ path, e.1 < 4 ∧ e.2 < 4 ∧ cid e.1 = cid e.2) ∧
      nodeDegree path 3 = 0 ∧
      (clusterRow (nodesTable 4 cid path) 0).centralisation = some ⟨4, 6⟩) ∧
    ((∀ e ∈ triple, e.1 ≠ e.2) ∧ (∀ e ∈ triple, e.1 < 3 ∧ e.2 < 3 ∧ cid e.1 = cid e.2) ∧
      ¬ (allNodes triple).Nodup ∧
      (clusterRow (nodesTable 3 cid triple) 0).centralisation = some ⟨3, 2⟩) := by
  decide +kernel

end SplinkVerif.C19B
