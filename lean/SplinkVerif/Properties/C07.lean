import SplinkVerif.Lemmas.Cache
/-!
# C07 — results never depend on what ran before (cache soundness)

Property theorems about `Model/Cache.lean`.  `hash` is the physical-name hash (`sha256(sql ++ uid)`,
assumed injective on what a run issues), `eval text data` the contents a SQL text produces on the
current input data — both arbitrary functions.
-/
namespace SplinkVerif.C07
open SplinkVerif SplinkVerif.Cache

/-- the hash separates different SQL texts and different cache uids
(definition in `Lemmas/Cache.lean`: `∀ t u t' u', hash t u = hash t' u' → t = t' ∧ u = u'`) -/
abbrev HashInj := @Lemmas.CacheL.HashInj

/-- Tables kept under a templated name (`__splink__df_concat_with_tf`, `__splink__df_tf_<col>`, …) are
served to *every* request for that templated name, whatever its SQL text. This is sound as long as
all requests for such a name mean the same query (`namedText templ`) — true for one linker over
fixed settings, its training copies included.
(definition in `Lemmas/Cache.lean`: `∀ r, (Op.req r ∈ ops ∨ Op.computeNamed r ∈ ops) →
(∃ r', Op.computeNamed r' ∈ ops ∧ r'.templ = r.templ) → r.text = namedText r.templ`) -/
abbrev NamedDiscipline := @Lemmas.CacheL.NamedDiscipline

/-- the input data are never changed behind Splink's back: every change comes with `invalidate_cache()`
(`mutateInvalidate`) or goes through Splink (`reregister`)
(definition in `Lemmas/Cache.lean`: `Op.mutate ∉ ops`) -/
abbrev NoSilentMutation := @Lemmas.CacheL.NoSilentMutation

/-- **Cache transparency.** In every history of one linker's operations — requests with and without
cache, named computations, table drops, `invalidate_cache()`, data changes followed by
`invalidate_cache()`, `delete_tables_created_by_splink_from_db`, changes of the hash salt, tables replaced
under their name through Splink (`reregister`) — every request returns exactly the
contents its SQL produces on the *current* data: what ran before is invisible. -/
theorem cache_transparent (hash eval : Nat → Nat → Nat) (namedText : Nat → Nat)
    (hinj : HashInj hash) (pre post : List Op) (r : Req)
    (hnamed : NamedDiscipline namedText (pre ++ Op.req r :: post))
    (hmut : NoSilentMutation pre) :
    (request hash eval (run hash eval init pre) r).val = eval r.text (run hash eval init pre).data := by
  open Lemmas.CacheL in
  let D : Nat → Prop := fun t => ∃ r', Op.computeNamed r' ∈ pre ++ Op.req r :: post ∧ r'.templ = t
  have hI : Inv hash eval namedText D (run hash eval init pre) :=
    inv_run hinj pre (inv_init hash eval namedText D) hmut fun r' h =>
      have hm : Op.computeNamed r' ∈ pre ++ Op.req r :: post := List.mem_append_left _ h
      ⟨⟨r', hm, rfl⟩, hnamed r' (.inr hm) ⟨r', hm, rfl⟩⟩
  exact request_val_of_inv hI r (hnamed r (.inl (List.mem_append_right _ List.mem_cons_self)))

/-- `cache_transparent` for the request right after an operation `op` that follows `pre` -/
theorem transparent_after (hash eval : Nat → Nat → Nat) (namedText : Nat → Nat)
    (hinj : HashInj hash) (pre post : List Op) (op : Op) (r : Req)
    (hnamed : NamedDiscipline namedText (pre ++ op :: Op.req r :: post))
    (hmut : NoSilentMutation pre) (hop : op ≠ .mutate) :
    (request hash eval (run hash eval init (pre ++ [op])) r).val =
      eval r.text (applyOp hash eval (run hash eval init pre) op).data := by
  rw [cache_transparent hash eval namedText hinj (pre ++ [op]) post r, Lemmas.CacheL.run_append]
  · rfl
  · rwa [List.append_assoc]
  · intro h
    rcases List.mem_append.1 h with h | h
    · exact hmut h
    · exact hop (List.mem_singleton.1 h).symm

/-- `invalidate_cache()` after a data change makes later results reflect the new data. -/
theorem invalidate_reflects_new_data (hash eval : Nat → Nat → Nat) (namedText : Nat → Nat)
    (hinj : HashInj hash) (pre post : List Op) (r : Req)
    (hnamed : NamedDiscipline namedText (pre ++ Op.mutateInvalidate :: Op.req r :: post))
    (hmut : NoSilentMutation pre) :
    (request hash eval (run hash eval init (pre ++ [Op.mutateInvalidate])) r).val =
      eval r.text ((run hash eval init pre).data + 1) :=
  (transparent_after hash eval namedText hinj pre post .mutateInvalidate r hnamed hmut nofun).trans
    (congrArg (eval r.text) (Lemmas.CacheL.mutateInvalidate_data _))

/-- **A table replaced through Splink needs no `invalidate_cache()`** (the point of repair 4551b8fa:
`register_table` / `register_table_predict` / `register_labels_table` / a `Linker`'s input registration with
`overwrite=True` on an existing name forget the results stored under a templated name and re-draw the salt
of the hashed names): the request right after the re-registration returns what its SQL denotes on the NEW
data, although every table computed from the old data is still in the catalog and in the dict. -/
theorem reregistration_reflects_new_data (hash eval : Nat → Nat → Nat) (namedText : Nat → Nat)
    (hinj : HashInj hash) (pre post : List Op) (r : Req)
    (hnamed : NamedDiscipline namedText (pre ++ Op.reregister :: Op.req r :: post))
    (hmut : NoSilentMutation pre) :
    (request hash eval (run hash eval init (pre ++ [Op.reregister])) r).val =
      eval r.text ((run hash eval init pre).data + 1) :=
  transparent_after hash eval namedText hinj pre post .reregister r hnamed hmut nofun

/-- …and so does EVERY later request, whatever ran in between (`mid`: any operations but the silent
`mutate`): it returns what its SQL denotes on the data of its own time, and those are strictly newer than the
data the replaced table belonged to. -/
theorem reregistration_reflects_new_data_later (hash eval : Nat → Nat → Nat) (namedText : Nat → Nat)
    (hinj : HashInj hash) (pre mid post : List Op) (r : Req)
    (hnamed : NamedDiscipline namedText ((pre ++ Op.reregister :: mid) ++ Op.req r :: post))
    (hmut : NoSilentMutation (pre ++ Op.reregister :: mid)) :
    (request hash eval (run hash eval init (pre ++ Op.reregister :: mid)) r).val =
        eval r.text (run hash eval init (pre ++ Op.reregister :: mid)).data ∧
      (run hash eval init pre).data < (run hash eval init (pre ++ Op.reregister :: mid)).data := by
  refine ⟨cache_transparent hash eval namedText hinj _ post r hnamed hmut, ?_⟩
  rw [Lemmas.CacheL.run_append]
  have hd := Lemmas.CacheL.run_data_le hash eval mid (reregister (run hash eval init pre))
  rw [Lemmas.CacheL.reregister_data] at hd
  exact Nat.lt_of_succ_le hd

/-- A request answered from the cache or the catalog returns what executing it would return. -/
theorem hit_equals_miss (hash eval : Nat → Nat → Nat) (namedText : Nat → Nat)
    (hinj : HashInj hash) (pre post : List Op) (r : Req)
    (hnamed : NamedDiscipline namedText (pre ++ Op.req r :: post))
    (hmut : NoSilentMutation pre) :
    (request hash eval (run hash eval init pre) r).val =
      (execute hash eval (run hash eval init pre) r).val :=
  (cache_transparent hash eval namedText hinj pre post r hnamed hmut).trans
    (Lemmas.CacheL.execute_val _ r).symm

/-- Two queries whose SQL differs in anything — a model parameter is a literal of the SQL — or that
run under different uids never share a physical table. -/
theorem model_change_changes_key (hash : Nat → Nat → Nat) (hinj : HashInj hash) (templ t t' u u' : Nat)
    (h : t ≠ t' ∨ u ≠ u') : (⟨templ, hash t u⟩ : Phys) ≠ ⟨templ, hash t' u'⟩ :=
  fun he => h.elim (· (hinj _ _ _ _ (Phys.mk.inj he).2).1) (· (hinj _ _ _ _ (Phys.mk.inj he).2).2)

/-- The discipline is necessary: a data change behind Splink's back (an `INSERT` into the input table, a
view whose source changed) without `invalidate_cache()` is served the stale table.  (A change THROUGH Splink —
a table re-registered with `overwrite=True` — is `reregister`, not `mutate`.) -/
theorem silent_mutation_counter :
    ∃ (hash eval : Nat → Nat → Nat) (pre : List Op) (r : Req), HashInj hash ∧
      (request hash eval (run hash eval init pre) r).val ≠ eval r.text (run hash eval init pre).data :=
  ⟨Lemmas.CacheL.pairHash, fun t d => t + d, [Op.req ⟨0, 0, true⟩, Op.mutate], ⟨0, 0, true⟩,
    Lemmas.CacheL.pairHash_inj, by decide⟩

/-- …and so is the naming discipline: if the meaning of a named table changes (a term-frequency
lookup registered after `__splink__df_concat_with_tf` was stored) while the named entry stays, the
old table is served. -/
theorem named_entry_counter :
    ∃ (hash eval : Nat → Nat → Nat) (pre : List Op) (r : Req), HashInj hash ∧ NoSilentMutation pre ∧
      (request hash eval (run hash eval init pre) r).val ≠ eval r.text (run hash eval init pre).data :=
  ⟨Lemmas.CacheL.pairHash, fun t _ => t, [Op.computeNamed ⟨0, 0, true⟩], ⟨0, 1, true⟩,
    Lemmas.CacheL.pairHash_inj, nofun, by decide⟩

/-! ## Realtime `compare_records` SQL cache -/

/-- If the cache key determines the generated SQL, every call sequence gets, with the cache, exactly
the SQL it would get without it. -/
theorem realtime_cache_sound {κ : Type} [DecidableEq κ] (key : RtCall → κ) (sqlOf : RtCall → Nat)
    (hkey : ∀ x y, key x = key y → sqlOf x = sqlOf y) (calls : List RtCall) :
    rtRun key sqlOf [] calls = calls.map sqlOf :=
  Lemmas.CacheL.rtRun_sound key sqlOf hkey calls [] nofun

/-- A key that ignores `include_found_by_blocking_rules` (or the dialect) is unsound as soon as the
SQL depends on it: two calls suffice. -/
theorem realtime_key_must_cover_flag :
    ∃ (sqlOf : RtCall → Nat) (calls : List RtCall),
      rtRun (fun c => c.settings) sqlOf [] calls ≠ calls.map sqlOf :=
  ⟨fun c => if c.includeFoundByBlockingRules then 1 else 0, [⟨0, 0, false⟩, ⟨0, 0, true⟩], by decide⟩

/-- Non-vacuity: request, hit, invalidate, re-execute (hash := text·1000 + uid, eval := text + 10·data). -/
example :
    let hash := fun t u => t * 1000 + u
    let eval := fun t d => t + 10 * d
    let s1 := run hash eval init [Op.req ⟨7, 3, true⟩]
    (request hash eval s1 ⟨7, 3, true⟩).hit = true ∧
    (request hash eval (run hash eval s1 [Op.mutateInvalidate]) ⟨7, 3, true⟩).hit = false ∧
    (request hash eval (run hash eval s1 [Op.mutateInvalidate]) ⟨7, 3, true⟩).val = 13 := by decide +kernel

/-- Non-vacuity of the re-registration theorems: request (miss), same request (hit), a named computation;
after `reregister` the same request is a miss and returns the value on the new data (3 + 10·1), the named
entry is gone, the old table is still in the catalog (nothing is dropped), and a request for the named
table recomputes on the new data too. -/
example :
    let hash := fun t u => t * 1000 + u
    let eval := fun t d => t + 10 * d
    let s1 := run hash eval init [Op.req ⟨7, 3, true⟩, Op.computeNamed ⟨8, 4, true⟩]
    let s2 := run hash eval s1 [Op.reregister]
    (request hash eval s1 ⟨7, 3, true⟩).hit = true ∧ (request hash eval s1 ⟨8, 5, true⟩).val = 4 ∧
    (request hash eval s2 ⟨7, 3, true⟩).hit = false ∧ (request hash eval s2 ⟨7, 3, true⟩).val = 13 ∧
    (request hash eval s2 ⟨8, 4, true⟩).hit = false ∧ (request hash eval s2 ⟨8, 4, true⟩).val = 14 ∧
    s2.db.length = 2 ∧ s2.cache.length = 2 ∧ s2.uid = 1 := by decide +kernel

/-- …and the salt change alone (`resalt`, the data unchanged) makes the hashed tables unreachable but keeps the
named entries. -/
example :
    let hash := fun t u => t * 1000 + u
    let eval := fun t d => t + 10 * d
    let s := run hash eval init [Op.req ⟨7, 3, true⟩, Op.computeNamed ⟨8, 4, true⟩, Op.resalt]
    (request hash eval s ⟨7, 3, true⟩).hit = false ∧ (request hash eval s ⟨7, 3, true⟩).val = 3 ∧
    (request hash eval s ⟨8, 4, true⟩).hit = true := by decide +kernel

end SplinkVerif.C07
