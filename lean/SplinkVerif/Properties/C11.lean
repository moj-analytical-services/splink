import SplinkVerif.Lemmas.MultiThreshold
import SplinkVerif.Generated.Arith
/-!
# C11 — multi-threshold clustering equals clustering at each threshold

Property theorems about `Model/MultiThreshold.lean` (the model of
`cluster_pairwise_predictions_at_multiple_thresholds`).  `ge` is the comparison
`match_probability >= threshold`; the theorems need it to be transitive and
total only (true of `>=` on non-NaN doubles, on rationals, on integers).
All statements hold for every `n`, every edge list whose endpoints are nodes and
every threshold list, in any order, with repetitions.
-/
namespace SplinkVerif.C11
open SplinkVerif SplinkVerif.MultiThreshold

variable {α : Type}

/-- Clustering independently at one threshold: all nodes in play. -/
def single (ge : α → α → Bool) (n : Nat) (edges : List (PEdge α)) (t : α) : Clustering :=
  ccAt ge n (fun _ => true) edges t

/-- Every requested threshold gets exactly one output clustering (the list of
output thresholds is a permutation of the requested list, in ascending order). -/
theorem thresholds_covered (ge : α → α → Bool) (one : α) (n : Nat) (edges : List (PEdge α))
    (ts : List α) :
    ((multi ge one n edges ts).map (·.1)).Perm ts := by
  rw [Lemmas.MT.multi_map_fst]
  exact Lemmas.MT.sortAsc_perm ge ts

/-- Main theorem: the clustering reported for threshold `t` has exactly the rows
of clustering independently at `t` (same node → cluster id assignment; only the
row order of the table may differ). -/
theorem multi_eq_single (ge : α → α → Bool) (one : α) (n : Nat) (edges : List (PEdge α))
    (ts : List α)
    (htrans : ∀ a b c, ge a b = true → ge b c = true → ge a c = true)
    (htotal : ∀ a b, ge a b = true ∨ ge b a = true)
    (hE : ∀ e ∈ edges, e.1 < n ∧ e.2.1 < n) :
    ∀ t cc, (t, cc) ∈ multi ge one n edges ts → cc.Perm (single ge n edges t) := by
  intro t cc h
  rw [single, Lemmas.MT.ccAt_true]
  exact Lemmas.MT.good_perm (Lemmas.MT.multi_good ge one n edges ts htrans htotal hE t cc h)
    (Lemmas.MT.good_cluster n _ (Lemmas.thresholdEdges_lt ge (some t) n edges hE))

/-- Stable-cluster lemma: a cluster at the previous threshold all of whose
incident kept edges also pass the new (higher) threshold is reported unchanged,
and it is a cluster at the new threshold: its rows are rows of the independent
clustering at the new threshold. -/
theorem stable_cluster_rows (ge : α → α → Bool) (one : α) (n : Nat) (edges : List (PEdge α))
    (tPrev tNew : α)
    (htrans : ∀ a b c, ge a b = true → ge b c = true → ge a c = true)
    (hle : ge tNew tPrev = true)
    (hE : ∀ e ∈ edges, e.1 < n ∧ e.2.1 < n) :
    ∀ r ∈ stableNodes ge one n edges (single ge n edges tPrev) tPrev tNew,
      r ∈ single ge n edges tNew := by
  rintro ⟨i, c⟩ hr
  rw [Lemmas.MT.stableNodes_eq] at hr
  rw [single, Lemmas.MT.ccAt_true] at hr ⊢
  have hGp := Lemmas.MT.good_cluster n _ (Lemmas.thresholdEdges_lt ge (some tPrev) n edges hE)
  have hGn := Lemmas.MT.good_cluster n _ (Lemmas.thresholdEdges_lt ge (some tNew) n edges hE)
  obtain ⟨hrm, hrs⟩ := List.mem_filter.mp hr
  rw [Lemmas.MT.stable_row ge one n edges _ tPrev tNew htrans hle hE hGp i c hrm hrs]
  exact Lemmas.MT.good_mem hGn (Lemmas.MT.good_row hGp hrm).1

/-- The summary statistics (number of clusters, maximum size, total size — the
mean is total/number) depend only on the rows, so the statistics reported for a
threshold are those of the independent clustering at that threshold. -/
theorem summary_stats (ge : α → α → Bool) (one : α) (n : Nat) (edges : List (PEdge α))
    (ts : List α)
    (htrans : ∀ a b c, ge a b = true → ge b c = true → ge a c = true)
    (htotal : ∀ a b, ge a b = true ∨ ge b a = true)
    (hE : ∀ e ∈ edges, e.1 < n ∧ e.2.1 < n) :
    ∀ t cc, (t, cc) ∈ multi ge one n edges ts → stats cc = stats (single ge n edges t) :=
  fun t cc h => Lemmas.MT.stats_perm (multi_eq_single ge one n edges ts htrans htotal hE t cc h)

/-- The statistics are what they say: total size is the number of records. -/
theorem stats_total (cc : Clustering) : (stats cc).totalSize = cc.length :=
  Lemmas.Lists.length_groups cc (·.2)

/-- **Every threshold given is used** — about the *translated* `threshold_args_to_match_prob_list`
(`Generated/Arith.lean`, regenerated from `splink/internals/misc.py` on every run): a list of probabilities is
only sorted, a list of match weights becomes the sorted list of `2^w/(1+2^w)` — same length, nothing dropped
(boundary weights such as `0` included) — and giving both lists raises. -/
theorem threshold_list_args_applied {β : Type} [ANum β] (ps ws : List β) :
    Gen.threshold_args_to_match_prob_list (some ps) none = some (some (ANum.sorted ps)) ∧
    Gen.threshold_args_to_match_prob_list none (some ws) =
      some (some (ANum.sorted (ws.map fun w => ANum.div (ANum.pow2 w) (ANum.add (ANum.ofNat 1) (ANum.pow2 w))))) ∧
    Gen.threshold_args_to_match_prob_list (some ps) (some ws) = none :=
  ⟨rfl, rfl, rfl⟩

/-- `sorted` keeps every element: the sorted threshold list is a permutation of the given one. -/
theorem sorted_perm {β : Type} [ANum β] (xs : List β) : (ANum.sorted xs).Perm xs :=
  Lemmas.Lists.sort_perm (before := fun x y => ANum.le x y = true) (ins := ANum.insert) (fun _ => rfl) (fun _ _ _ => rfl) xs

/-- Non-vacuity (integers as probabilities, `ge := (· ≥ ·)`): path 0–1–2–3 with
strengths 9, 5, 9 at thresholds [7, 3, 10] (unsorted): one cluster at 3, two at
7, singletons at 10. -/
example :
    multi (fun (a b : Nat) => decide (a ≥ b)) 100 4 [(0, 1, 9), (2, 1, 5), (3, 2, 9)] [7, 3, 10] =
      [(3, [(0, 0), (1, 0), (2, 0), (3, 0)]),
       (7, [(0, 0), (1, 0), (2, 2), (3, 2)]),
       (10, [(0, 0), (1, 1), (2, 2), (3, 3)])] := by decide +kernel

end SplinkVerif.C11
