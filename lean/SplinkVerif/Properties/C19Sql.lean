import SplinkVerif.Lemmas.GMSql
import SplinkVerif.Properties.C19Bridges
/-!
# C19 at the level of the emitted SQL

`Generated/GMSql.lean` holds the statements `compute_graph_metrics` currently emits for a dedupe_only linker (T-sql
translator, regenerated on every run); `Model/GMSql.lean` is the Python control flow around them (the node relabelling
`row_number() OVER (ORDER BY 1) - 1` and igraph's bridge finder are parameters).  The theorems below say that these
pipelines, evaluated with the SQL semantics `Rel.eval` (exact rational arithmetic), return exactly the rows of the
functional model `Model/GraphMetrics.lean` — hence the C19 theorems (degree = number of incident kept edges, bridge
flag = "removing the edge disconnects its endpoints", …) are theorems about the regenerated SQL.  A change to any of
the SQL templates changes `Generated/GMSql.lean` and these proofs stop checking.

Everything holds for EVERY number of records `n`, EVERY labelling `cid : Nat → Nat` (no consistency with the edges, no
range condition), EVERY edge list (duplicated rows, both orientations, self loops, edges across clusters) and EVERY
threshold; the node and cluster statements need no hypothesis at all, the edge statements need what the code itself
relies on: the integer mapping lists every endpoint exactly once.

One theorem per statement, in the order the code issues them, then the pipelines; the encodings of the tables and the
facts the proofs are assembled from are in `Lemmas/GMSql.lean`, generic facts about `Rel.eval` in `Lemmas/Rel.lean`.
-/
namespace SplinkVerif.C19Sql
open SplinkVerif SplinkVerif.Rel SplinkVerif.GraphMetrics
open SplinkVerif.Lemmas.Rel SplinkVerif.Lemmas.GMSql

/-! ## The running example -/

/-- Triangle 0-1-2 with a pendant 2-3, an edge 4-5, the isolated record 6 and an edge 5-6 below the threshold `5`. -/
def exEdges : List (Nat × Nat × Int) := [(0, 1, 9), (1, 2, 9), (0, 2, 9), (2, 3, 9), (4, 5, 9), (5, 6, 1)]

/-- Clusters `{0,1,2,3}`, `{4,5}`, `{6}`, labelled by their smallest member. -/
def exCid : Nat → Nat := fun i => if i < 4 then 0 else if i < 6 then 4 else 6

/-- A malformed input: a duplicated row, a reversed duplicate, a self loop. -/
def badEdges : List (Nat × Nat × Int) := [(0, 1, 9), (0, 1, 9), (1, 0, 9), (3, 3, 9), (1, 3, 9)]

/-- A labelling that splits the component `{0,1,3}` and merges across components. -/
def badCid : Nat → Nat := fun i => i % 2

/-! ## Part 1: the node table -/

/-- The model's kept edges are the `(l, r)` projection of the prediction rows that pass the threshold. -/
theorem kept_eq (thr : Int) (edges : List (Nat × Nat × Int)) :
    kept thr edges = (keptRows thr edges).map fun e => (e.1, e.2.1) :=
  rfl

/-- Statement 1, `__splink__truncated_edges` ↔ the model's filter (`keptRows` = the prediction rows with
`match_probability >= thr`; `kept thr edges` is their `(l, r)` projection, `kept_eq`). -/
theorem sql_truncatedEdges (db : Db) (edges : List (Nat × Nat × Int)) (thr : Int)
    (hP : db "predict_in" = predictRows edges) :
    (Gen.GMSql.truncatedEdges (Val.int thr)).eval db = predictRows (keptRows thr edges) := by
  unfold Gen.GMSql.truncatedEdges keptRows
  rw [eval_filter, eval_table, hP]
  unfold predictRows
  rw [List.filter_map]
  congr 1
  apply List.filter_congr
  intro e _
  simp only [Function.comp_apply, Expr.holds, Expr.eval, List.getD_cons_succ, List.getD_cons_zero, cmp_ge_int,
    bool_beq_true]

/-- Statement 2, `__splink__all_nodes` (`UNION ALL` of both orientations) ↔ `GraphMetrics.allNodes`. -/
theorem sql_allNodes (db : Db) (ke : List (Nat × Nat × Int))
    (hT : db "__splink__truncated_edges" = predictRows ke) :
    Gen.GMSql.allNodes.eval db = (GraphMetrics.allNodes (ke.map fun e => (e.1, e.2.1))).map pairRow := by
  unfold Gen.GMSql.allNodes GraphMetrics.allNodes
  rw [eval_union_all, eval_project, eval_project, eval_table, hT]
  unfold predictRows
  simp only [List.map_map, List.map_append]
  congr 1

/-- Statement 3, `__splink__graph_metrics_node_degree` (LEFT JOIN, GROUP BY two keys,
`COUNT(*) FILTER (WHERE n.neighbour IS NOT NULL)`, `COUNT(*) OVER (PARTITION BY cluster_id)` after the grouping) ↔
`nodeDegreeTable`: with `an = allNodes es` the third column is `nodeDegree es i` by definition. -/
theorem sql_nodeDegree (db : Db) (n : Nat) (cid : Nat → Nat) (an : List (Nat × Nat))
    (hC : db "clustered_in" = clusteredRows n cid) (hA : db "__splink__all_nodes" = an.map pairRow) :
    Gen.GMSql.graphMetricsNodeDegree.eval db = (List.range n).map fun (i : Nat) =>
      [Val.int (i : Int), Val.int (cid i), Val.int ((an.filter fun r => r.1 == i).length : Nat),
        Val.int (clusterSize n cid i)] := by
  have hG : groupRows [Expr.col 1, Expr.col 0] [Agg.countIf (Expr.not (Expr.isNull (Expr.col 4)))]
      ((List.range n).flatMap (joinBlock cid an))
      = (List.range n).map fun i => [iv i, iv (cid i), iv ((an.filter fun r => r.1 == i).length)] := by
    rw [groupRows_blocks (List.range n) List.nodup_range [Expr.col 1, Expr.col 0]
      [Agg.countIf (Expr.not (Expr.isNull (Expr.col 4)))] (joinBlock cid an)
      (fun i => [iv i, iv (cid i)]) (List.cons_ne_nil _ _) (fun i _ => joinBlock_ne_nil cid an i)
      (fun i _ => joinBlock_key cid an i) (fun _ _ _ _ h => iv_inj.mp (List.cons.inj h).1)]
    apply List.map_congr_left
    intro i _
    simp only [List.map_cons, List.map_nil, joinBlock_count, List.cons_append, List.nil_append]
  unfold Gen.GMSql.graphMetricsNodeDegree
  rw [eval_project, window_count_map (by rw [eval_groupBy, eval_join, eval_table, eval_table, hC, hA, nodeJoin_eq, hG]),
    List.map_map]
  apply List.map_congr_left
  intro i _
  have hlen : ((List.range n).filter fun j =>
      [Expr.col 1].map (·.eval [iv j, iv (cid j), iv ((an.filter fun r => r.1 == j).length)]) ==
      [Expr.col 1].map (·.eval [iv i, iv (cid i), iv ((an.filter fun r => r.1 == i).length)])).length
      = clusterSize n cid i := by
    unfold clusterSize
    congr 1
    apply List.filter_congr
    intro j _
    simp only [List.map_cons, List.map_nil, Expr.eval, List.getD_cons_succ, List.getD_cons_zero, List.cons_beq_cons,
      List.beq_nil_eq, List.isEmpty_nil, Bool.and_true]
    exact iv_beq _ _
  simp only [Function.comp_apply, hlen]
  rfl

/-- … hence, on `__splink__all_nodes` of the kept edges, the encoded `nodeDegreeTable`. -/
theorem sql_nodeDegree_model (db : Db) (n : Nat) (cid : Nat → Nat) (es : List Edge)
    (hC : db "clustered_in" = clusteredRows n cid)
    (hA : db "__splink__all_nodes" = (GraphMetrics.allNodes es).map pairRow) :
    Gen.GMSql.graphMetricsNodeDegree.eval db = (nodeDegreeTable n cid es).map fun r =>
      [Val.int (r.1 : Int), Val.int (r.2.1 : Int), Val.int (r.2.2.1 : Int), Val.int (r.2.2.2 : Int)] := by
  rw [sql_nodeDegree db n cid _ hC hA, nodeDegreeTable, List.map_map]
  rfl

/-- Statement 4, `__splink__graph_metrics_nodes` (`CASE WHEN cluster_size > 1 THEN (1.0 * node_degree) /
(cluster_size - 1) ELSE 0 END`) ↔ `nodeCentrality`. -/
theorem sql_graphMetricsNodes (db : Db) (n : Nat) (cid deg size : Nat → Nat)
    (hD : db "__splink__graph_metrics_node_degree" = (List.range n).map fun (i : Nat) =>
      [Val.int (i : Int), Val.int (cid i), Val.int (deg i), Val.int (size i)]) :
    Gen.GMSql.graphMetricsNodes.eval db = (List.range n).map fun (i : Nat) =>
      [Val.int (i : Int), Val.int (cid i), Val.int (deg i), encFrac (nodeCentrality (deg i) (size i))] := by
  unfold Gen.GMSql.graphMetricsNodes
  rw [eval_project, eval_table, hD, List.map_map]
  apply List.map_congr_left
  intro i _
  simp only [Function.comp_apply, List.map_cons, List.map_nil, centrality_eval]
  rfl

/-- … in fact the same list, row order included (`Rel.eval` is deterministic and the model lists the records in the
order of `df_clustered`). -/
theorem sql_nodes_eq_model (n : Nat) (cid : Nat → Nat) (edges : List (Nat × Nat × Int)) (thr : Int) :
    GMSql.nodes (predictRows edges) (clusteredRows n cid) (Val.int thr)
      = (nodesTable n cid (kept thr edges)).map encNode := by
  have hC : ∀ A, Db.set (fun _ => clusteredRows n cid) "__splink__all_nodes" A "clustered_in"
      = clusteredRows n cid := fun _ => set_ne _ _ _ _ (by simp)
  rw [nodes_pipeline, sql_truncatedEdges (fun _ => predictRows edges) edges thr rfl, sql_allNodes (fun _ => _) _ rfl,
    ← kept_eq, sql_nodeDegree _ n cid _ (hC _) (set_same _ _ _), sql_graphMetricsNodes (fun _ => _) n cid _ _ rfl,
    Lemmas.GM.nodesTable_eq, List.map_map]
  rfl

/-- **Refinement, node table.**  For every `n`, `cid`, edge list and threshold the SQL pipeline of
`_compute_metrics_nodes` returns a permutation of the encoded `nodesTable` of the kept edges. -/
theorem sql_nodes_perm_model (n : Nat) (cid : Nat → Nat) (edges : List (Nat × Nat × Int)) (thr : Int) :
    (GMSql.nodes (predictRows edges) (clusteredRows n cid) (Val.int thr)).Perm
      ((nodesTable n cid (kept thr edges)).map encNode) :=
  List.Perm.of_eq (sql_nodes_eq_model n cid edges thr)

/-- Non-vacuity: the SQL node pipeline on the example — degrees 2,2,3,1,1,1,0, centralities 2/3, 2/3, 3/3, 1/3, 1, 1, 0 —
which is the encoded model table (both sides of `sql_nodes_eq_model` evaluated). -/
example :
    GMSql.nodes (predictRows exEdges) (clusteredRows 7 exCid) (Val.int 5) =
      [[Val.int 0, Val.int 0, Val.int 2, Val.rat (2 / 3)], [Val.int 1, Val.int 0, Val.int 2, Val.rat (2 / 3)],
       [Val.int 2, Val.int 0, Val.int 3, Val.rat 1], [Val.int 3, Val.int 0, Val.int 1, Val.rat (1 / 3)],
       [Val.int 4, Val.int 4, Val.int 1, Val.rat 1], [Val.int 5, Val.int 4, Val.int 1, Val.rat 1],
       [Val.int 6, Val.int 6, Val.int 0, Val.rat 0]] ∧
    GMSql.nodes (predictRows exEdges) (clusteredRows 7 exCid) (Val.int 5) =
      (nodesTable 7 exCid (kept 5 exEdges)).map encNode := by
  rw [nodes_pipeline]
  decide +kernel

/-- No well-formedness of the input is needed: on the malformed input (duplicated rows, a self loop, a labelling at
odds with the components) SQL and model agree — the self loop counts twice (the degree of 3 is 3: two from the loop, one
from the edge 1-3), duplicates count as often as they occur, and `node_centrality` exceeds 1. -/
example :
    GMSql.nodes (predictRows badEdges) (clusteredRows 4 badCid) (Val.int 5) =
      [[Val.int 0, Val.int 0, Val.int 3, Val.rat 3], [Val.int 1, Val.int 1, Val.int 4, Val.rat 4],
       [Val.int 2, Val.int 0, Val.int 0, Val.rat 0], [Val.int 3, Val.int 1, Val.int 3, Val.rat 3]] ∧
    GMSql.nodes (predictRows badEdges) (clusteredRows 4 badCid) (Val.int 5) =
      (nodesTable 4 badCid (kept 5 badEdges)).map encNode := by
  rw [nodes_pipeline]
  decide +kernel

/-- Row order of the two registered input tables does not matter (up to the order of the result). -/
theorem sql_nodes_input_order_irrelevant (n : Nat) (cid : Nat → Nat) (edges : List (Nat × Nat × Int)) (thr : Int)
    (predict clustered : List Row) (hP : predict.Perm (predictRows edges))
    (hC : clustered.Perm (clusteredRows n cid)) :
    (GMSql.nodes predict clustered (Val.int thr)).Perm ((nodesTable n cid (kept thr edges)).map encNode) := by
  rw [← sql_nodes_eq_model]
  unfold GMSql.nodes
  apply runStmts_perm
  · intro name
    unfold GMSql.baseDb
    exact set_perm (set_perm (fun _ => List.Perm.refl _) _ hP) _ hC name
  · exact stmtsOK_of_countsOnly _ _ rfl

/-! ## Part 2: the cluster table -/

/-- Statement 5, `__splink__counts_per_cluster` ↔ `cluster`, `nNodes`, `nEdges`, `centralisation` of `clusterRow`. -/
theorem sql_countsPerCluster (db : Db) (rows : List NodeRow)
    (hN : db "__splink__graph_metrics_nodes" = rows.map encNode) :
    Gen.GMSql.countsPerCluster.eval db = ((rows.map (·.cluster)).eraseDups).map fun (c : Nat) =>
      [Val.int (c : Int), Val.int (clusterRow rows c).nNodes, encFrac (clusterRow rows c).nEdges,
        encOptFrac (clusterRow rows c).centralisation] := by
  unfold Gen.GMSql.countsPerCluster
  rw [eval_project, eval_groupBy, eval_table, hN, clusters_group, List.map_map]
  apply List.map_congr_left
  intro c _
  simp only [Function.comp_apply, groupRow, List.map_cons, List.map_nil, centralisation_eval]
  simp only [Expr.eval, List.getD_cons_succ, List.getD_cons_zero, nEdges_eval]
  rfl

/-- Statement 6, `__splink__graph_metrics_clusters` ↔ the `density` of `clusterRow`. -/
theorem sql_graphMetricsClusters (db : Db) (rows : List NodeRow) (L : List Nat)
    (hC : db "__splink__counts_per_cluster" = L.map fun (c : Nat) =>
      [Val.int (c : Int), Val.int (clusterRow rows c).nNodes, encFrac (clusterRow rows c).nEdges,
        encOptFrac (clusterRow rows c).centralisation]) :
    Gen.GMSql.graphMetricsClusters.eval db = L.map fun c => encCluster (clusterRow rows c) := by
  unfold Gen.GMSql.graphMetricsClusters
  rw [eval_project, eval_table, hC, List.map_map]
  apply List.map_congr_left
  intro c _
  have hE : (clusterRow rows c).nEdges = ⟨sumDeg (rows.filter fun r => r.cluster == c), 2⟩ := rfl
  simp only [Function.comp_apply, List.map_cons, List.map_nil, hE, density_eval]
  simp only [Expr.eval, List.getD_cons_succ, List.getD_cons_zero]
  rfl

/-- On the node table in the model's order the result is the same list, row order included. -/
theorem sql_clusters_eq_model (rows : List NodeRow) :
    GMSql.clusters (rows.map encNode) = (clustersTable rows).map encCluster := by
  rw [clusters_pipeline, sql_countsPerCluster (fun _ => _) rows rfl, sql_graphMetricsClusters (fun _ => _) rows _ rfl,
    clustersTable, List.map_map]
  rfl

/-- The same for ANY list of node rows (not only those `nodesTable` produces), in any row order. -/
theorem sql_clusters_perm_model_any_rows (rows : List NodeRow) (nodesTab : List Row)
    (hT : nodesTab.Perm (rows.map encNode)) :
    (GMSql.clusters nodesTab).Perm ((clustersTable rows).map encCluster) := by
  rw [← sql_clusters_eq_model]
  unfold GMSql.clusters
  refine (runStmts_perm (db := Db.set GMSql.emptyDb "__splink__graph_metrics_nodes" (rows.map encNode))
    (db' := Db.set GMSql.emptyDb "__splink__graph_metrics_nodes" nodesTab) ?_ _ (clusterStmts_ok rows) _).symm
  exact set_perm (fun _ => List.Perm.refl _) _ hT.symm

/-- **Refinement, cluster table.**  `_compute_metrics_clusters` applied to any permutation of the encoded node table
returns a permutation of the encoded `clustersTable`: `COUNT(*)`, `SUM(node_degree)/2.0`, the centralisation `CASE`
(`COUNT(*) > 2`) and the density `CASE` (`n_nodes > 1`) agree with `clusterRow` as rational VALUES (`Frac` is an
unreduced pair) and as NULLs. -/
theorem sql_clusters_perm_model (n : Nat) (cid : Nat → Nat) (edges : List (Nat × Nat × Int)) (thr : Int)
    (nodesTab : List Row) (hT : nodesTab.Perm ((nodesTable n cid (kept thr edges)).map encNode)) :
    (GMSql.clusters nodesTab).Perm
      ((clustersTable (nodesTable n cid (kept thr edges))).map encCluster) :=
  sql_clusters_perm_model_any_rows _ nodesTab hT

/-- Nodes and clusters composed, as `compute_graph_metrics` does: the cluster table computed from the SQL's own node
table. -/
theorem sql_clusters_of_sql_nodes (n : Nat) (cid : Nat → Nat) (edges : List (Nat × Nat × Int)) (thr : Int) :
    (GMSql.clusters (GMSql.nodes (predictRows edges) (clusteredRows n cid) (Val.int thr))).Perm
      ((clustersTable (nodesTable n cid (kept thr edges))).map encCluster) :=
  sql_clusters_perm_model_any_rows _ _ (sql_nodes_perm_model n cid edges thr)

/-- Non-vacuity: the SQL cluster pipeline on the SQL's node table of the example — 4 edges, density 2/3, centralisation
2/3 for `{0,1,2,3}`; NULL centralisation for the pair; NULL density and centralisation for the singleton — which is
the encoded model table although the model's fractions are unreduced (`8/2`, `16/24`, `4/6`). -/
example :
    GMSql.clusters (GMSql.nodes (predictRows exEdges) (clusteredRows 7 exCid) (Val.int 5)) =
      [[Val.int 0, Val.int 4, Val.rat 4, Val.rat (2 / 3), Val.rat (2 / 3)],
       [Val.int 4, Val.int 2, Val.rat 1, Val.rat 1, Val.null],
       [Val.int 6, Val.int 1, Val.rat 0, Val.null, Val.null]] ∧
    clustersTable (nodesTable 7 exCid (kept 5 exEdges)) =
      [⟨0, 4, ⟨8, 2⟩, some ⟨16, 24⟩, some ⟨4, 6⟩⟩, ⟨4, 2, ⟨2, 2⟩, some ⟨4, 4⟩, none⟩, ⟨6, 1, ⟨0, 2⟩, none, none⟩] ∧
    GMSql.clusters ((nodesTable 7 exCid (kept 5 exEdges)).map encNode) =
      (clustersTable (nodesTable 7 exCid (kept 5 exEdges))).map encCluster := by
  simp only [clusters_pipeline, nodes_pipeline]
  decide +kernel

/-- On the malformed input SQL and model agree as well: every edge row 0-1 crosses the two clusters and counts one half
in each (`n_edges` = 3/2 and 7/2), and `density` exceeds 1. -/
example :
    GMSql.clusters (GMSql.nodes (predictRows badEdges) (clusteredRows 4 badCid) (Val.int 5)) =
      [[Val.int 0, Val.int 2, Val.rat (3 / 2), Val.rat (3 / 2), Val.null],
       [Val.int 1, Val.int 2, Val.rat (7 / 2), Val.rat (7 / 2), Val.null]] ∧
    GMSql.clusters (GMSql.nodes (predictRows badEdges) (clusteredRows 4 badCid) (Val.int 5)) =
      (clustersTable (nodesTable 4 badCid (kept 5 badEdges))).map encCluster := by
  simp only [clusters_pipeline, nodes_pipeline]
  decide +kernel

/-! ## Part 3: the edge table -/

/-- Statement 7, `__splink__edges_with_mapped_ids` (two LEFT JOINs on the mapping) ↔ `edgesForIgraph`: one row per
kept edge, in order, both endpoints relabelled (`relabel` = `newId` with the `Option` removed; no NULL arises). -/
theorem sql_edgesWithMappedIds (db : Db) (order : List Nat) (ke : List (Nat × Nat × Int))
    (hnd : order.Nodup) (hmem : ∀ e ∈ ke, e.1 ∈ order ∧ e.2.1 ∈ order)
    (hT : db "__splink__truncated_edges" = predictRows ke)
    (hM : db "__splink__nodes_integer_mapping" = GMSql.mapping (orderVals order)) :
    Gen.GMSql.edgesWithMappedIds.eval db
      = (ke.map fun e => (e.1, e.2.1)).map fun e => pairRow (Lemmas.GM.relabel order e) := by
  unfold Gen.GMSql.edgesWithMappedIds
  rw [eval_project, eval_join, eval_project, eval_join, eval_table, eval_table, hT, hM, predictRows,
    join_mapping order ke _ (fun e => Lemmas.GM.pi order e.1), List.map_map,
    join_mapping order ke _ (fun e => Lemmas.GM.pi order e.2.1), List.map_map, List.map_map]
  · rfl
  · exact fun e he => Lemmas.GM.pi_lt (hmem e he).2
  · exact fun e he i hi => (holds_eq_cols_nat (a := order.getD i 0) (b := e.2.1) rfl rfl).trans
      (beq_eq_beq.mpr (Lemmas.GM.getD_eq_iff_pi hnd (hmem e he).2 hi))
  · exact fun e he => Lemmas.GM.pi_lt (hmem e he).1
  · exact fun e he i hi => (holds_eq_cols_nat (a := e.1) (b := order.getD i 0) rfl rfl).trans
      (Bool.beq_comm.trans (beq_eq_beq.mpr (Lemmas.GM.getD_eq_iff_pi hnd (hmem e he).1 hi)))

/-- … that is, the model's `edgesForIgraph` (every `newId` is `some _`). -/
theorem sql_edgesWithMappedIds_model (db : Db) (order : List Nat) (ke : List (Nat × Nat × Int))
    (hnd : order.Nodup) (hmem : ∀ e ∈ ke, e.1 ∈ order ∧ e.2.1 ∈ order)
    (hT : db "__splink__truncated_edges" = predictRows ke)
    (hM : db "__splink__nodes_integer_mapping" = GMSql.mapping (orderVals order)) :
    Gen.GMSql.edgesWithMappedIds.eval db
      = (GraphMetrics.edgesForIgraph order (ke.map fun e => (e.1, e.2.1))).map optPairRow := by
  rw [sql_edgesWithMappedIds db order ke hnd hmem hT hM]
  unfold GraphMetrics.edgesForIgraph
  rw [List.map_map, List.map_map, List.map_map]
  apply List.map_congr_left
  intro e he
  simp only [Function.comp_apply, Lemmas.GM.newId_pi (hmem e he).1, Lemmas.GM.newId_pi (hmem e he).2]
  rfl

/-- Statement 8, `__splink__bridges_only` (two LEFT JOINs back through the mapping, `TRUE AS is_bridge`) ↔
`GraphMetrics.bridgesOnly`, for bridge rows whose ids are new ids. -/
theorem sql_bridgesOnly (db : Db) (order : List Nat) (bl : List (Nat × Nat))
    (hlt : ∀ q ∈ bl, q.1 < order.length ∧ q.2 < order.length)
    (hB : db "bridges_in" = bl.map pairRow)
    (hM : db "__splink__nodes_integer_mapping" = GMSql.mapping (orderVals order)) :
    Gen.GMSql.bridgesOnly.eval db = (GraphMetrics.bridgesOnly order bl).map brRow := by
  unfold Gen.GMSql.bridgesOnly GraphMetrics.bridgesOnly
  rw [eval_project, eval_join, eval_project, eval_join, eval_table, eval_table, hB, hM,
    join_mapping order bl _ (·.1), List.map_map, join_mapping order bl _ (·.2), List.map_map, List.map_map]
  · apply List.map_congr_left
    intro q hq
    simp only [Function.comp_apply, Lemmas.GM.oldId_of_lt (hlt q hq).1, Lemmas.GM.oldId_of_lt (hlt q hq).2]
    rfl
  · exact fun q hq => (hlt q hq).2
  · exact fun q _ i _ => holds_eq_cols_nat (a := i) (b := q.2) rfl rfl
  · exact fun q hq => (hlt q hq).1
  · exact fun q _ i _ => (holds_eq_cols_nat (a := q.1) (b := i) rfl rfl).trans Bool.beq_comm

/-- Statement 9, `__splink__graph_metrics_edges` (LEFT JOIN on two equalities + `COALESCE(b.is_bridge, FALSE)`) ↔
`fullBridges`, for ANY table of bridge rows (NULL ids never match). -/
theorem sql_graphMetricsEdges (db : Db) (ke : List (Nat × Nat × Int)) (b : List (Option Nat × Option Nat))
    (hT : db "__splink__truncated_edges" = predictRows ke)
    (hB : db "__splink__bridges_only" = b.map brRow) :
    Gen.GMSql.graphMetricsEdges.eval db = (fullBridges (ke.map fun e => (e.1, e.2.1)) b).map encEdge := by
  unfold Gen.GMSql.graphMetricsEdges
  rw [eval_project, eval_join, eval_table, eval_table, hT, hB]
  rw [predictRows, joinRows_left_map ke b _ brRow _ (fun e q => q == (some e.1, some e.2.1)) 3
    fun e q => edgeOn_holds e.1 e.2.1 (Val.int e.2.2) q]
  unfold fullBridges
  rw [List.flatMap_map, List.map_flatMap, List.map_flatMap]
  refine List.flatMap_congr fun e _ => ?_
  dsimp only
  split
  · rfl
  · rw [List.map_map, List.map_map]
    rfl

/-- … in fact the same list, row order included, and all that is needed of the mapping is that it lists every
endpoint exactly once. -/
theorem sql_edges_eq_model (bridges : List (Nat × Nat) → List Nat) (order : List Nat)
    (edges : List (Nat × Nat × Int)) (thr : Int) (hnd : order.Nodup)
    (hmem : ∀ e ∈ edges, e.1 ∈ order ∧ e.2.1 ∈ order) :
    ∃ t, edgesTable bridges order (kept thr edges) = some t ∧
      GMSql.edges (fun em => bridges (decodePairs em)) (predictRows edges) (orderVals order) (Val.int thr)
        = t.map encEdge := by
  have hmemE := kept_mem_order (thr := thr) hmem
  have hT := sql_truncatedEdges (fun _ => predictRows edges) edges thr rfl
  have hM : ∀ T : List Row, Db.set (fun _ => T) "__splink__nodes_integer_mapping" (GMSql.mapping (orderVals order))
      "__splink__truncated_edges" = T := fun _ => set_ne _ _ _ _ (by simp)
  have hem : GMSql.edgesForIgraph (predictRows edges) (orderVals order) (Val.int thr)
      = ((kept thr edges).map (Lemmas.GM.relabel order)).map pairRow := by
    rw [edgesForIgraph_pipeline, hT, sql_edgesWithMappedIds _ order (keptRows thr edges) hnd
      (fun e he => hmem e (List.mem_filter.mp he).1) (hM _) (set_same _ _ _), ← kept_eq, List.map_map]
    rfl
  refine ⟨_, by rw [edgesTable, Lemmas.GM.igraphInput_eq order _ hmemE, Option.map_some], ?_⟩
  have hB : ∀ B : List Row, Db.set (fun _ => B) "__splink__nodes_integer_mapping" (GMSql.mapping (orderVals order))
      "bridges_in" = B := fun _ => set_ne _ _ _ _ (by simp)
  have hT' : ∀ B : List Row, Db.set (fun _ => predictRows (keptRows thr edges)) "__splink__bridges_only" B
      "__splink__truncated_edges" = predictRows (keptRows thr edges) := fun _ => set_ne _ _ _ _ (by simp)
  rw [edges_pipeline, hem, hT, bridgeRows_enc,
    sql_bridgesOnly _ order _ (bridgeRows_relabel_lt bridges hmemE) (hB _) (set_same _ _ _),
    sql_graphMetricsEdges _ _ _ (hT' _) (set_same _ _ _), ← kept_eq]

/-- **Refinement, edge table.**  For every row order `order` of the nodes table (a permutation of the records: what
`row_number() OVER (ORDER BY 1)` numbers), every bridge finder, every edge list with endpoints `< n` and every
threshold: the model's `edgesTable` is defined (igraph is given no NULL) and `compute_igraph_metrics` returns a
permutation of its encoding. -/
theorem sql_edges_perm_model (n : Nat) (bridges : List (Nat × Nat) → List Nat) (order : List Nat)
    (edges : List (Nat × Nat × Int)) (thr : Int) (hO : order.Perm (List.range n))
    (hE : ∀ e ∈ edges, e.1 < n ∧ e.2.1 < n) :
    ∃ t, edgesTable bridges order (kept thr edges) = some t ∧
      (GMSql.edges (fun em => bridges (decodePairs em)) (predictRows edges) (orderVals order) (Val.int thr)).Perm
        (t.map encEdge) := by
  have hnd : order.Nodup := hO.nodup_iff.mpr List.nodup_range
  have hmem : ∀ e ∈ edges, e.1 ∈ order ∧ e.2.1 ∈ order := fun e he =>
    ⟨hO.mem_iff.mpr (List.mem_range.mpr (hE e he).1), hO.mem_iff.mpr (List.mem_range.mpr (hE e he).2)⟩
  obtain ⟨t, ht, hS⟩ := sql_edges_eq_model bridges order edges thr hnd hmem
  exact ⟨t, ht, List.Perm.of_eq hS⟩

/-- Non-vacuity: the hypotheses of `sql_edges_perm_model` / `sql_edges_eq_model` / `sql_bridge_flag_def_naive` are met
by the example with the row order `3,1,0,2,5,4,6`; igraph is given the relabelled kept edges; the SQL edge pipeline
with the reference bridge finder flags the pendant edge and the edge 4-5, as the model does. -/
example :
    [3, 1, 0, 2, 5, 4, 6].Perm (List.range 7) ∧ (∀ e ∈ exEdges, e.1 < 7 ∧ e.2.1 < 7) ∧
    [3, 1, 0, 2, 5, 4, 6].Nodup ∧ (∀ e ∈ exEdges, e.1 ∈ [3, 1, 0, 2, 5, 4, 6] ∧ e.2.1 ∈ [3, 1, 0, 2, 5, 4, 6]) ∧
    (kept 5 exEdges).Nodup ∧
    GMSql.edgesForIgraph (predictRows exEdges) (orderVals [3, 1, 0, 2, 5, 4, 6]) (Val.int 5) =
      [pairRow (2, 1), pairRow (1, 3), pairRow (2, 3), pairRow (3, 0), pairRow (5, 4)] ∧
    GMSql.edges (fun em => naiveBridges (decodePairs em)) (predictRows exEdges) (orderVals [3, 1, 0, 2, 5, 4, 6])
        (Val.int 5) =
      [encEdge (0, 1, false), encEdge (1, 2, false), encEdge (0, 2, false), encEdge (2, 3, true),
        encEdge (4, 5, true)] ∧
    edgesTable naiveBridges [3, 1, 0, 2, 5, 4, 6] (kept 5 exEdges) =
      some [(0, 1, false), (1, 2, false), (0, 2, false), (2, 3, true), (4, 5, true)] := by
  rw [edges_pipeline, edgesForIgraph_pipeline]
  decide +kernel

/-- On the malformed input, with a bridge finder that returns garbage (a repeated index, an index out of range), SQL
and model still agree: rows multiply on both sides (7 result rows for 5 kept edge rows: each of the two rows `0-1`
matches the bridge row `0-1` twice). -/
example :
    (edgesTable (fun _ => [4, 0, 0, 17]) [2, 0, 3, 1] (kept 5 badEdges)).map (·.map encEdge) =
      some (GMSql.edges (fun em => (fun _ => [4, 0, 0, 17]) (decodePairs em)) (predictRows badEdges)
        (orderVals [2, 0, 3, 1]) (Val.int 5)) ∧
    GMSql.edges (fun em => (fun _ => [4, 0, 0, 17]) (decodePairs em)) (predictRows badEdges) (orderVals [2, 0, 3, 1])
        (Val.int 5) =
      [encEdge (0, 1, true), encEdge (0, 1, true), encEdge (0, 1, true), encEdge (0, 1, true),
        encEdge (1, 0, false), encEdge (3, 3, false), encEdge (1, 3, true)] := by
  rw [edges_pipeline, edgesForIgraph_pipeline]
  decide +kernel

/-! ## Part 4: C19 theorems about the SQL's own tables -/

/-- The `(composite_unique_id, node_degree)` columns of the SQL's node table. -/
theorem nodes_id_degree (n : Nat) (cid : Nat → Nat) (edges : List (Nat × Nat × Int)) (thr : Int) :
    (GMSql.nodes (predictRows edges) (clusteredRows n cid) (Val.int thr)).map
        (fun row => (row.getD 0 Val.null, row.getD 2 Val.null))
      = (List.range n).map fun i => (iv i, iv (nodeDegree (kept thr edges) i)) := by
  rw [sql_nodes_eq_model, Lemmas.GM.nodesTable_eq, List.map_map, List.map_map]
  rfl

/-- `C19.degree_counts_rows` for the regenerated SQL: the `(composite_unique_id, node_degree)` columns of the SQL's
node table list every record once with the number of kept edge rows in which it is the left endpoint plus the number
in which it is the right endpoint — for any edge list (a self loop counts twice, a duplicated row twice). -/
theorem sql_degree_counts_rows (n : Nat) (cid : Nat → Nat) (edges : List (Nat × Nat × Int)) (thr : Int) :
    (GMSql.nodes (predictRows edges) (clusteredRows n cid) (Val.int thr)).map
        (fun row => (row.getD 0 Val.null, row.getD 2 Val.null))
      = (List.range n).map fun (i : Nat) => (Val.int (i : Int),
          Val.int ((((kept thr edges).filter fun e => e.1 == i).length
            + ((kept thr edges).filter fun e => e.2 == i).length : Nat) : Int)) := by
  rw [nodes_id_degree]
  apply List.map_congr_left
  intro i _
  rw [C19.degree_counts_rows]

/-- `C19.degree_def` for the regenerated SQL: when the kept graph is simple, `node_degree` is the number of kept edges
incident to the record, which is the number of its distinct neighbours. -/
theorem sql_degree_def (n : Nat) (cid : Nat → Nat) (edges : List (Nat × Nat × Int)) (thr : Int)
    (hS : Lemmas.GM.Simple (kept thr edges)) :
    (GMSql.nodes (predictRows edges) (clusteredRows n cid) (Val.int thr)).map
        (fun row => (row.getD 0 Val.null, row.getD 2 Val.null))
      = (List.range n).map (fun (i : Nat) => (Val.int (i : Int),
          Val.int (((kept thr edges).filter fun e => e.1 == i || e.2 == i).length : Nat))) ∧
    ∀ i, (Lemmas.GM.neighbours (kept thr edges) i).Nodup ∧
      (Lemmas.GM.neighbours (kept thr edges) i).length
        = ((kept thr edges).filter fun e => e.1 == i || e.2 == i).length ∧
      ∀ x, x ∈ Lemmas.GM.neighbours (kept thr edges) i ↔ ((i, x) ∈ kept thr edges ∨ (x, i) ∈ kept thr edges) := by
  constructor
  · rw [nodes_id_degree]
    apply List.map_congr_left
    intro i _
    rw [(C19.degree_def (kept thr edges) i hS).1]
  · intro i
    obtain ⟨h1, h2, h3, h4⟩ := C19.degree_def (kept thr edges) i hS
    exact ⟨h2, h3.trans h1, h4⟩

/-- `C19.bridge_flags_on_right_edges` + `C19.bridge_flag_def` for the regenerated SQL, for ANY bridge finder that
meets `BridgeSpec` and returns distinct indices (igraph's, if it is correct): one row per kept edge, in order, flagged
iff removing the edge disconnects its endpoints. -/
theorem sql_bridge_flag_def (bridges : List (Nat × Nat) → List Nat) (hspec : Lemmas.GM.BridgeSpec bridges)
    (hB : ∀ g, (bridges g).Nodup) (order : List Nat) (edges : List (Nat × Nat × Int)) (thr : Int)
    (hnd : order.Nodup) (hmem : ∀ e ∈ edges, e.1 ∈ order ∧ e.2.1 ∈ order) (hK : (kept thr edges).Nodup) :
    ∃ flag : Edge → Bool,
      GMSql.edges (fun em => bridges (decodePairs em)) (predictRows edges) (orderVals order) (Val.int thr)
        = (kept thr edges).map (fun e => encEdge (e.1, e.2, flag e)) ∧
      ∀ k (hk : k < (kept thr edges).length), (flag (kept thr edges)[k] = true ↔
        ¬ Reach (Lemmas.GM.AdjL ((kept thr edges).eraseIdx k)) (kept thr edges)[k].1 (kept thr edges)[k].2) := by
  have hmemE := kept_mem_order (thr := thr) hmem
  obtain ⟨t, ht, hS⟩ := sql_edges_eq_model bridges order edges thr hnd hmem
  have ht' := C19.bridge_flags_on_right_edges bridges order (kept thr edges) hmemE hK hB
  have htt := Option.some.inj (ht.symm.trans ht')
  refine ⟨fun e => decide (Lemmas.GM.relabel order e ∈
    bridgeRows bridges ((kept thr edges).map (Lemmas.GM.relabel order))), ?_, ?_⟩
  · rw [hS, htt, List.map_map]
    rfl
  · intro k hk
    rw [decide_eq_true_iff]
    exact C19.bridge_flag_def bridges hspec order (kept thr edges) hmemE hK k hk

/-- `C19B.bridge_flag_def_naive` / `edges_table_naive` for the regenerated SQL: with the reference bridge finder the
`k`-th row of the SQL's edge table is the `k`-th kept edge, and its `is_bridge` is TRUE iff removing that edge row
disconnects its endpoints in the kept graph (kept edge rows distinct, mapping lists every endpoint once). -/
theorem sql_bridge_flag_def_naive (order : List Nat) (edges : List (Nat × Nat × Int)) (thr : Int)
    (hnd : order.Nodup) (hmem : ∀ e ∈ edges, e.1 ∈ order ∧ e.2.1 ∈ order) (hK : (kept thr edges).Nodup) :
    (GMSql.edges (fun em => naiveBridges (decodePairs em)) (predictRows edges) (orderVals order)
        (Val.int thr)).length = (kept thr edges).length ∧
    ∀ k (hk : k < (kept thr edges).length), ∃ b,
      (GMSql.edges (fun em => naiveBridges (decodePairs em)) (predictRows edges) (orderVals order) (Val.int thr))[k]?
        = some (encEdge ((kept thr edges)[k].1, (kept thr edges)[k].2, b)) ∧
      (b = true ↔
        ¬ Reach (Lemmas.GM.AdjL ((kept thr edges).eraseIdx k)) (kept thr edges)[k].1 (kept thr edges)[k].2) := by
  obtain ⟨flag, hE, hflag⟩ := sql_bridge_flag_def naiveBridges C19B.naiveBridges_meets_spec
    C19B.naiveBridges_nodup order edges thr hnd hmem hK
  rw [hE]
  exact ⟨List.length_map _, fun k hk =>
    ⟨flag (kept thr edges)[k], Lemmas.Lists.getElem?_map_of_lt _ hk, hflag k hk⟩⟩

/-- Non-vacuity of Part 4: the kept graph of the example is simple, its kept edge rows are distinct, the reference
bridge finder meets the hypotheses of `sql_bridge_flag_def`; the `(id, degree)` columns of the SQL's node table are as
stated. -/
example :
    (allNodes (kept 5 exEdges)).Nodup ∧ (kept 5 exEdges).Nodup ∧
    (GMSql.nodes (predictRows exEdges) (clusteredRows 7 exCid) (Val.int 5)).map
        (fun row => (row.getD 0 Val.null, row.getD 2 Val.null)) =
      [(Val.int 0, Val.int 2), (Val.int 1, Val.int 2), (Val.int 2, Val.int 3), (Val.int 3, Val.int 1),
       (Val.int 4, Val.int 1), (Val.int 5, Val.int 1), (Val.int 6, Val.int 0)] := by
  rw [nodes_pipeline]
  decide +kernel

/-- `sql_bridge_flag_def` instantiated with the reference finder (its two hypotheses on the finder are theorems). -/
example (order : List Nat) (edges : List (Nat × Nat × Int)) (thr : Int) (hnd : order.Nodup)
    (hmem : ∀ e ∈ edges, e.1 ∈ order ∧ e.2.1 ∈ order) (hK : (kept thr edges).Nodup) :=
  sql_bridge_flag_def naiveBridges C19B.naiveBridges_meets_spec C19B.naiveBridges_nodup order edges thr hnd hmem hK

end SplinkVerif.C19Sql
