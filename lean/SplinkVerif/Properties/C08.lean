import SplinkVerif.Lemmas.Txn
/-!
# C08 — a failing call leaves the model and later results untouched

Property theorems about `Model/Txn.lean`: for EVERY number of backend statements and EVERY fault
point the two code shapes are atomic, hence so is every operation of `opTable`; the two shapes the code
used before the repairs F7/F8 are not (witnesses).
-/
namespace SplinkVerif.C08
open SplinkVerif SplinkVerif.Txn

abbrev Atomic := @Lemmas.TxnL.Atomic

/-- a fault can only fire inside the `n` statements -/
theorem fault_fires_iff (n : Nat) (s : Obs) (k : Nat) :
    (exec (sqls n) s (some k)).out = .raised ↔ k < n := by
  rw [Lemmas.TxnL.exec_sqls_some]
  split
  · exact iff_of_true rfl ‹_›
  · exact iff_of_false nofun ‹_›

/-- statements alone never change the observable state -/
theorem statements_do_not_write (n : Nat) (s : Obs) (k : Option Nat) : (exec (sqls n) s k).obs = s := by
  cases k with
  | none => rw [Lemmas.TxnL.exec_sqls_none]
  | some k =>
    rw [Lemmas.TxnL.exec_sqls_some]
    split <;> rfl

theorem statements_atomic (n : Nat) : Atomic (sqls n) :=
  fun s k _ => statements_do_not_write n s k

/-- An operation that runs all its statements against a copy and writes the linker once, after the last of them (the
training and estimation methods), is atomic: at every fault point, for every number of statements and every commit. -/
theorem copy_then_commit_atomic (n : Nat) (commit : Obs → Obs) : Atomic (copyThenCommit n commit) :=
  Lemmas.TxnL.atomic_seq_write (statements_atomic n) commit

/-- An operation that installs temporary settings and restores them in `finally` (`find_matches_to_new_records`,
`compare_two_records`) leaves the linker as it found it, whether it returns or raises, wherever the fault is —
provided `restore` undoes `set`. -/
theorem with_temporaries_restores (set restore : Obs → Obs) (n : Nat) (hinv : ∀ s, restore (set s) = s)
    (s : Obs) (k : Option Nat) : (exec (withTemporaries set n restore) s k).obs = s :=
  (congrArg restore (statements_do_not_write n (set s) k)).trans (hinv s)

/-- In particular such an operation is atomic. -/
theorem with_temporaries_atomic (set restore : Obs → Obs) (n : Nat) (hinv : ∀ s, restore (set s) = s) :
    Atomic (withTemporaries set n restore) :=
  fun s k _ => with_temporaries_restores set restore n hinv s k

/-- Each of the three shapes is atomic, whichever operations have it. -/
theorem shapes_are_atomic (sh : Shape) (n : Nat) (set restore commit : Obs → Obs)
    (hinv : ∀ s, restore (set s) = s) : Atomic (progOf sh n set restore commit) := by
  cases sh with
  | copyThenCommit => exact copy_then_commit_atomic n commit
  | withTemporaries => exact with_temporaries_atomic set restore n hinv
  | readOnly => exact statements_atomic n

/-- Every public operation in the table is atomic. -/
theorem ops_are_atomic (name : String) (sh : Shape) (_h : (name, sh) ∈ opTable) (n : Nat)
    (set restore commit : Obs → Obs) (hinv : ∀ s, restore (set s) = s) :
    Atomic (progOf sh n set restore commit) :=
  shapes_are_atomic sh n set restore commit hinv

/-- Without `finally` a fault at any of the statements leaves the temporaries installed
(`find_matches_to_new_records` / `compare_two_records` before F8). -/
theorem no_finally_counter : ∃ (set restore : Obs → Obs) (n : Nat), (∀ s, restore (set s) = s) ∧
    ¬ Atomic (withTemporariesNoFinally set n restore) :=
  ⟨fun o => { o with rules := o.rules + 1 }, fun o => { o with rules := o.rules - 1 }, 1, fun _ => rfl,
    fun h => absurd (h ⟨0, 0, 0, 0⟩ (some 0) rfl) (by decide)⟩

/-- Mutating the live object before the statements run is not atomic (`EMTrainingSession` before F7). -/
theorem mutate_then_run_counter : ∃ (early commit : Obs → Obs) (n : Nat),
    ¬ Atomic (mutateThenRun early n commit) :=
  ⟨fun o => { o with model := o.model + 1 }, id, 1,
    fun h => absurd (h ⟨0, 0, 0, 0⟩ (some 0) rfl) (by decide)⟩

/-- Non-vacuity: 3 statements, fault at the second; temporaries set `rules := 9`. -/
example :
    let set := fun (o : Obs) => { o with rules := 9 }
    let restore := fun (o : Obs) => { o with rules := 1 }
    let s : Obs := ⟨5, 1, 0, 0⟩
    (exec (withTemporaries set 3 restore) s (some 1)).out = .raised ∧
    (exec (withTemporaries set 3 restore) s (some 1)).obs = s ∧
    (exec (withTemporariesNoFinally set 3 restore) s (some 1)).obs ≠ s := by decide +kernel

end SplinkVerif.C08
