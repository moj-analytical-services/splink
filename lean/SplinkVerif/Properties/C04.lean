import SplinkVerif.Lemmas.Estimators
/-!
# C04 — direct estimators equal exact pair frequencies

Property theorems about `Model/Estimators.lean` and the **generated** sampling arithmetic
(`Gen._rows_needed_for_n_pairs`, `Gen._proportion_sample_size_link_only`, re-translated from
`estimate_u.py` on every run) at `ℝ` (`Lemmas.Est.instANumReal`: `sqrt = Real.sqrt`).
`cartesian = #admissible pairs` is proved in `Properties/C14.lean` for the generated `calculate_cartesian`.
-/
namespace SplinkVerif.C04
open SplinkVerif SplinkVerif.Estimators

/-- An estimate is exactly the fraction of (non-null) training pairs that fall in the level. -/
theorem estimate_is_frequency (gammas : List (Option Int)) (v : Int) (n d : Nat)
    (h : levelFreq gammas v = some (n, d)) :
    n = (gammas.filter fun g => g == some v).length ∧
    d = (gammas.filter fun g => match g with | some w => w != -1 | none => false).length ∧
    0 < n ∧ n ≤ d ∧ v ≠ -1 := by
  rw [Lemmas.Est.levelFreq_eq] at h
  by_cases hv : v = -1
  · rw [if_pos hv] at h
    cases h
  by_cases hc : levelCount gammas v = 0
  · rw [if_neg hv, if_pos hc] at h
    cases h
  rw [if_neg hv, if_neg hc] at h
  cases h
  exact ⟨rfl, rfl, Nat.pos_of_ne_zero hc, Lemmas.Est.levelCount_le_nonNullCount gammas v hv, hv⟩

/-- Levels never observed receive no estimate (and the null level never does). -/
theorem unobserved_gets_no_estimate (gammas : List (Option Int)) (v : Int) :
    levelFreq gammas v = none ↔ (v = -1 ∨ ∀ g ∈ gammas, g ≠ some v) := by
  rw [Lemmas.Est.levelFreq_eq, ← Lemmas.Est.levelCount_eq_zero_iff]
  by_cases hv : v = -1
  · rw [if_pos hv]
    exact iff_of_true rfl (Or.inl hv)
  by_cases hc : levelCount gammas v = 0
  · rw [if_neg hv, if_pos hc]
    exact iff_of_true rfl (Or.inr hc)
  · rw [if_neg hv, if_neg hc]
    exact iff_of_false (fun h => nomatch h) (fun h => h.elim hv hc)

/-- The estimates of the observed levels of a comparison are fractions of one common denominator
whose numerators add up to it: they sum to 1. `levels` lists the distinct non-null level values. -/
theorem estimates_sum_to_one (gammas : List (Option Int)) (levels : List Int)
    (hnd : levels.Nodup) (hneg : ∀ v ∈ levels, v ≠ -1)
    (hcover : ∀ g ∈ gammas, ∀ w, g = some w → w ≠ -1 → w ∈ levels) :
    (levels.map fun v => match levelFreq gammas v with | some (n, _) => n | none => 0).sum =
      (gammas.filter fun g => match g with | some w => w != -1 | none => false).length := by
  refine Eq.trans ?_ (Lemmas.Est.sum_levelCount gammas levels hnd hneg hcover)
  refine congrArg List.sum (List.map_congr_left fun v hv => ?_)
  rw [Lemmas.Est.levelFreq_eq, if_neg (hneg v hv)]
  by_cases hc : levelCount gammas v = 0
  · rw [if_pos hc, hc]
  · rw [if_neg hc]

/-- Sampling covers the whole table when `max_pairs` is at least the number of admissible pairs
(`dedupe_only`, `link_and_dedupe`): with `n ≥ 1` records, `max_pairs ≥ n(n−1)/2` makes the generated
`_rows_needed_for_n_pairs` return at least `n`, so the proportion is clamped to 1 and the sample
size to `n`. -/
theorem full_sample_dedupe (n : ℕ) (hn : 1 ≤ n) (maxPairs : ℝ)
    (h : ((n : ℝ) * ((n : ℝ) - 1)) / 2 ≤ maxPairs) :
    sampleDedupe maxPairs (n : ℝ) = some (1, (n : ℝ)) := by
  have hn' : (1 : ℝ) ≤ n := by exact_mod_cast hn
  have hge : (n : ℝ) ≤ Lemmas.Est.rowsNeeded maxPairs :=
    (Lemmas.Est.rowsNeeded_pairs n hn').symm.le.trans (Lemmas.Est.rowsNeeded_mono h)
  rw [Lemmas.Est.sampleDedupe_eq, if_pos ((one_le_div₀ (zero_lt_one.trans_le hn')).mpr hge),
    Lemmas.Est.clamp_of_le hge]

/-- …and conversely a smaller `max_pairs` samples strictly less than everything. -/
theorem partial_sample_dedupe (n : ℕ) (hn : 1 ≤ n) (maxPairs : ℝ) (h0 : 0 ≤ maxPairs)
    (h : maxPairs < ((n : ℝ) * ((n : ℝ) - 1)) / 2) :
    ∃ p s, sampleDedupe maxPairs (n : ℝ) = some (p, s) ∧ p < 1 ∧ s < (n : ℝ) := by
  have hn' : (1 : ℝ) ≤ n := by exact_mod_cast hn
  have hlt : Lemmas.Est.rowsNeeded maxPairs < n :=
    (Lemmas.Est.rowsNeeded_strictMono h0 h).trans_eq (Lemmas.Est.rowsNeeded_pairs n hn')
  have h1 := (div_lt_one (zero_lt_one.trans_le hn')).mpr hlt
  exact ⟨_, _, by rw [Lemmas.Est.sampleDedupe_eq, if_neg (not_le.mpr h1), if_neg (not_lt.mpr hlt.le)], h1, hlt⟩

/-- `link_only`: with per-table counts `cs` and `max_pairs ≥ ((Σc)² − Σc²)/2` (the number of
cross-table pairs, positive) the proportion is clamped to 1 and the sample is the whole table. -/
theorem full_sample_link_only (cs : List ℕ) (maxPairs : ℝ)
    (hpos : 0 < (((cs.map fun (c : ℕ) => (c : ℝ)).sum) ^ 2 - ((cs.map fun (c : ℕ) => (c : ℝ) ^ 2).sum)) / 2)
    (h : (((cs.map fun (c : ℕ) => (c : ℝ)).sum) ^ 2 - ((cs.map fun (c : ℕ) => (c : ℝ) ^ 2).sum)) / 2 ≤ maxPairs) :
    sampleLinkOnly (cs.map fun (c : ℕ) => (c : ℝ)) maxPairs =
      some (1, (cs.map fun (c : ℕ) => (c : ℝ)).sum) := by
  have hsq : ((cs.map fun (c : ℕ) => (c : ℝ)).map fun c => c * c) = cs.map fun (c : ℕ) => (c : ℝ) ^ 2 := by
    rw [List.map_map]
    exact List.map_congr_left fun c _ => (sq (c : ℝ)).symm
  have hS : 0 ≤ (cs.map fun (c : ℕ) => (c : ℝ)).sum := List.sum_nonneg fun x hx => by
    obtain ⟨c, _, rfl⟩ := List.mem_map.mp hx
    exact Nat.cast_nonneg c
  rw [Lemmas.Est.sampleLinkOnly_eq, hsq, ← sq]
  have h1 := Real.one_le_sqrt.mpr ((one_le_div₀ hpos).mpr h)
  show some (_, _) = _
  rw [if_pos h1, Lemmas.Est.clamp_of_le (le_mul_of_one_le_left hS h1)]

/-- The prior is `(pairs matched by any rule) / (recall × admissible pairs)`, and the call is
rejected exactly when the observed matches exceed `admissible pairs × recall`. -/
theorem prior_formula (observed cartesian recall : ℝ) :
    (cartesian * recall < observed → priorEstimate observed cartesian recall = none) ∧
    (observed ≤ cartesian * recall →
      priorEstimate observed cartesian recall = some (observed / recall / cartesian)) := by
  rw [Lemmas.Est.priorEstimate_eq]
  exact ⟨fun h => if_pos h, fun h => if_neg (not_lt.mpr h)⟩

/-- An accepted estimate is a probability: in `[0, 1]` for `recall ∈ (0,1]`, `cartesian > 0`, `observed ≥ 0`. -/
theorem prior_in_unit_interval (observed cartesian recall p : ℝ) (ho : 0 ≤ observed) (hc : 0 < cartesian)
    (hr : 0 < recall) (h : priorEstimate observed cartesian recall = some p) : 0 ≤ p ∧ p ≤ 1 := by
  rw [Lemmas.Est.priorEstimate_eq] at h
  by_cases hlt : cartesian * recall < observed
  · rw [if_pos hlt] at h
    cases h
  · rw [if_neg hlt] at h
    cases h
    exact ⟨div_nonneg (div_nonneg ho hr.le) hc.le,
      (div_le_one hc).mpr ((div_le_iff₀ hr).mpr (not_lt.mp hlt))⟩

/-- Either orientation of a label row denotes the same pair: after `lower_id_to_left_hand_side`
the record with the lower composite id is on the left, and the operation is idempotent. -/
theorem lower_id_orientation_free (key : Nat → Nat) (a b : Nat) (hne : key a ≠ key b) :
    lowerIdLeft key (a, b) = lowerIdLeft key (b, a) ∧
    key (lowerIdLeft key (a, b)).1 < key (lowerIdLeft key (a, b)).2 ∧
    lowerIdLeft key (lowerIdLeft key (a, b)) = lowerIdLeft key (a, b) := by
  rcases Nat.lt_or_gt_of_ne hne with hlt | hgt
  · simp [lowerIdLeft, hlt, Nat.lt_asymm hlt]
  · simp [lowerIdLeft, hgt, Nat.lt_asymm hgt]

/-- Non-vacuity: γ values `[1, 0, −1, 1, NULL]`: level 1 observed twice among 3 non-null rows. -/
example : levelFreq [some 1, some 0, some (-1), some 1, none] 1 = some (2, 3) ∧
    levelFreq [some 1, some 0, some (-1), some 1, none] 2 = none := by decide +kernel

end SplinkVerif.C04
