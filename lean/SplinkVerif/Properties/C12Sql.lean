import Std.Data.String.ToNat
import SplinkVerif.Lemmas.OtoSql
import SplinkVerif.Properties.C12
/-!
# C12 at the level of the emitted SQL

`Generated/OtoSql.lean` holds the statements `one_to_one_clustering` emits on the current tree (T-sql translator,
regenerated on every run; the pass for an arbitrary list of duplicate-free datasets is, for lists of length 1, 2, 3, *by `rfl` in that file*
the translation of the SQL captured from the real code); `Model/OtoSql.lean` is the Python control flow around them.  The
theorems below say that on **tie-free** inputs this pipeline, evaluated with the SQL semantics `Rel.eval`, returns exactly
the rows of the functional model `OneToOne.cluster` — for every pair of tie-break oracles of the model, which are then
irrelevant — hence the C12 theorems (partition, duplicate-free constraint, connectivity, maximality) are theorems
about the regenerated SQL.  A change to any of the SQL templates changes `Generated/OtoSql.lean` and these proofs (or
the `rfl` checks of the generated file) stop checking.

Hypotheses, all decidable and met by the harness's inputs: node ids are the ranks `0 … n-1` (unique, non-NULL), the
`source_dataset` values and the `'<sd>'` literals are the images of the datasets under an injective encoding into
non-NULL values (`DsEnc`; e.g. the dataset names as strings), probabilities are non-NULL integer order keys, and
`TieFree I`: two rows of `__splink__df_neighbours` with equal probability are the same row or the two orientations of
one edge.  Edge endpoints that are no nodes are allowed (both the SQL's inner joins and the model drop such rows).
With ties `row_number()` is engine-dependent; `Rel.rowNumber` then over-approximates `= 1` (see `Model/Rel.lean`) and no
refinement is claimed (the invariants for all tie-breaks are `C12.partition`, `C12.dupfree_respected` on the oracle model,
and connectivity fails: K4).

What each statement of a pass computes is proved in `Lemmas/OtoSql.lean` (for all inputs, in terms of `Rel.rowNumber`'s
reading of ties); generic facts about `Rel.eval` are in `Lemmas/Rel.lean`.
-/
namespace SplinkVerif.C12Sql
open SplinkVerif SplinkVerif.Rel
open SplinkVerif.OneToOne hiding Row
open SplinkVerif.Lemmas.OtoSql (DsEnc sdsOf nodesTbl thrVal pairRow ReprTbl NbrsTbl nuOf)

/-- Fuel of the SQL loop (passes after the forced first one) that provably suffices: `0 + 1 + … + (n-1)`. -/
def sqlFuel (I : Inst) : Nat := (List.range I.n).sum

/-- The rows `(node_id, cluster_id)` the SQL pipeline returns for the instance `I` (canonical row order of the inputs). -/
def sqlCluster (E : DsEnc) (I : Inst) : List Row :=
  OtoSql.cluster (nodesTbl E I) (OtoSql.edgeRows I.edges) (sdsOf E I) (thrVal I) (sqlFuel I)

/-- **Refinement (one pass).**  On a tie-free input, the statements of one pass of the loop body, run on the tables of
a state `rep` of the functional model (`first`: pass 1, the 3-column table; otherwise the 4-column table with any
`needs_updating` column `nu`), produce the tables of `OneToOne.step … rep` — the same new representative for every node,
for every pair of tie-break oracles and every pass index — and the `needs_updating` count of the model. -/
theorem sql_pass_is_step (E : DsEnc) (I : Inst) (oL oR : Oracle) (k : Nat) (rep : Reps) (htf : TieFree I)
    (first : Bool) (nu : Nat → Val) (s : OtoSql.LoopSt) (hn : NbrsTbl I s.nbrs)
    (hr : ReprTbl E I rep first nu s.repr) :
    NbrsTbl I (OtoSql.pass first (sdsOf E I) s).1.nbrs ∧
    ReprTbl E I (step I oL oR k rep) false (nuOf rep (step I oL oR k rep)) (OtoSql.pass first (sdsOf E I) s).1.repr ∧
    (OtoSql.pass first (sdsOf E I) s).2 = updCount I rep (step I oL oR k rep) :=
  Lemmas.OtoSql.pass_spec E I rep first nu s hn hr (accepted I oL oR k rep)
    (Lemmas.OtoSql.accepted_iff_model I oL oR k rep htf) _ rfl

/-- **The loop.**  If the SQL state holds the tables of `step k rep` and the count of that pass, the SQL loop with fuel
`f` ends in the tables of the functional model's loop with fuel `f + 1` started at `(k, rep)`, and logs the same counts. -/
theorem sql_loop_is_loop (E : DsEnc) (I : Inst) (oL oR : Oracle) (htf : TieFree I) :
    ∀ (f k : Nat) (rep : Reps) (sc : OtoSql.LoopSt × Nat), NbrsTbl I sc.1.nbrs →
      ReprTbl E I (step I oL oR k rep) false (nuOf rep (step I oL oR k rep)) sc.1.repr →
      sc.2 = updCount I rep (step I oL oR k rep) →
      (∃ nu', ReprTbl E I (OneToOne.loop I oL oR (f + 1) k rep).rep false nu' (OtoSql.loop (sdsOf E I) f sc).repr) ∧
        sc.2 :: OtoSql.loopTrace (sdsOf E I) f sc = OneToOne.loopTrace I oL oR (f + 1) k rep := by
  intro f
  induction f with
  | zero =>
    intro k rep sc _ hr hc
    simp only [OneToOne.loop, OneToOne.loopTrace, OtoSql.loop, OtoSql.loopTrace, hc]
    split <;> exact ⟨⟨_, hr⟩, rfl⟩
  | succ f ih =>
    intro k rep sc hn hr hc
    rw [OneToOne.loop, OneToOne.loopTrace, OtoSql.loop, OtoSql.loopTrace, hc]
    by_cases h0 : updCount I rep (step I oL oR k rep) = 0
    · simp only [h0, if_true, Nat.lt_irrefl, gt_iff_lt, if_false]
      exact ⟨⟨_, hr⟩, trivial⟩
    · obtain ⟨p1, p2, p3⟩ := sql_pass_is_step E I oL oR (k + 1) (step I oL oR k rep) htf false _ sc.1 hn hr
      obtain ⟨q1, q2⟩ := ih (k + 1) (step I oL oR k rep) _ p1 p2 p3
      simp only [h0, if_false, Nat.pos_of_ne_zero h0, if_true]
      exact ⟨q1, by rw [q2]⟩

/-- **The whole loop**, from the registered input tables in any row order: the table of the last pass holds the final
representatives of the functional model, and the logged counts are the model's. -/
theorem sql_run_is_run (E : DsEnc) (I : Inst) (oL oR : Oracle) (htf : TieFree I)
    (nodes edgeTab : List Row) (hN : nodes.Perm (nodesTbl E I)) (hT : edgeTab.Perm (OtoSql.edgeRows I.edges)) :
    (∃ nu', ReprTbl E I (run I oL oR).rep false nu' (OtoSql.loop (sdsOf E I) (sqlFuel I)
      (OtoSql.pass true (sdsOf E I) (OtoSql.init nodes edgeTab (thrVal I)))).repr) ∧
    OtoSql.trace nodes edgeTab (sdsOf E I) (thrVal I) (sqlFuel I) = OneToOne.trace I oL oR := by
  obtain ⟨i1, i2⟩ := Lemmas.OtoSql.init_spec E I (fun _ => Val.null) nodes edgeTab hN hT
  obtain ⟨p1, p2, p3⟩ := sql_pass_is_step E I oL oR 0 (initialReps I) htf true _ _ i1 i2
  exact sql_loop_is_loop E I oL oR htf (sqlFuel I) 0 (initialReps I) _ p1 p2 p3

/-- Row order of the registered input tables does not matter (up to the order of the result). -/
theorem sql_cluster_input_order_irrelevant (E : DsEnc) (I : Inst) (oL oR : Oracle) (htf : TieFree I)
    (nodes edgeTab : List Row) (hN : nodes.Perm (nodesTbl E I)) (hT : edgeTab.Perm (OtoSql.edgeRows I.edges)) :
    (OtoSql.cluster nodes edgeTab (sdsOf E I) (thrVal I) (sqlFuel I)).Perm
      ((OneToOne.cluster I oL oR).map pairRow) := by
  obtain ⟨⟨nu', hl⟩, _⟩ := sql_run_is_run E I oL oR htf nodes edgeTab hN hT
  exact Lemmas.OtoSql.output_spec E I _ nu' _ hl

/-- **Refinement (whole function).**  For every instance with pairwise distinct probabilities (any number of records,
datasets, duplicate-free datasets, edges incl. reversed / self-loop / dangling rows, any threshold or none) the SQL
pipeline returns a permutation of the rows of `OneToOne.cluster`, for every pair of tie-break oracles. -/
theorem sql_cluster_perm_model (E : DsEnc) (I : Inst) (oL oR : Oracle) (htf : TieFree I) :
    (sqlCluster E I).Perm ((OneToOne.cluster I oL oR).map pairRow) :=
  sql_cluster_input_order_irrelevant E I oL oR htf _ _ (List.Perm.refl _) (List.Perm.refl _)

/-- The logged per-pass `needs_updating` counts of the SQL pipeline are the model's. -/
theorem sql_trace_eq_model (E : DsEnc) (I : Inst) (oL oR : Oracle) (htf : TieFree I) :
    OtoSql.trace (nodesTbl E I) (OtoSql.edgeRows I.edges) (sdsOf E I) (thrVal I) (sqlFuel I)
      = OneToOne.trace I oL oR :=
  (sql_run_is_run E I oL oR htf _ _ (List.Perm.refl _) (List.Perm.refl _)).2

/-- The rows returned on a tie-free input: `(v, c)` is returned iff `v` is a node and `c` its representative in the
functional model's result. -/
theorem mem_sqlCluster (E : DsEnc) (I : Inst) (htf : TieFree I) (v c : Nat) :
    pairRow (v, c) ∈ sqlCluster E I ↔ v < I.n ∧ c = repOf (run I zeroOracle zeroOracle).rep v := by
  rw [(sql_cluster_perm_model E I zeroOracle zeroOracle htf).mem_iff, List.mem_map]
  unfold OneToOne.cluster OneToOne.output
  constructor
  · rintro ⟨p, hp, he⟩
    obtain ⟨u, hu, rfl⟩ := List.mem_map.mp hp
    have := Lemmas.OtoSql.pairRow_inj he
    simp only [Prod.mk.injEq] at this
    obtain ⟨rfl, rfl⟩ := this
    exact ⟨List.mem_range.mp hu, rfl⟩
  · rintro ⟨hv, rfl⟩
    exact ⟨_, List.mem_map.mpr ⟨v, List.mem_range.mpr hv, rfl⟩, rfl⟩

/-! ### C12 for the regenerated SQL (tie-free inputs) -/

/-- Every record is returned exactly once by the SQL pipeline. -/
theorem sql_partition (E : DsEnc) (I : Inst) (htf : TieFree I) :
    ((sqlCluster E I).map fun r => r.getD 0 Val.null).Perm
      ((List.range I.n).map fun (v : Nat) => Val.int (v : Int)) := by
  refine ((sql_cluster_perm_model E I zeroOracle zeroOracle htf).map _).trans (List.Perm.of_eq ?_)
  rw [← C12.partition I zeroOracle zeroOracle, List.map_map, List.map_map]
  apply List.map_congr_left
  intro p _
  simp [pairRow]

/-- No returned cluster holds two records of one duplicate-free dataset. -/
theorem sql_dupfree_respected (E : DsEnc) (I : Inst) (htf : TieFree I) (u v c : Nat) (huv : u ≠ v)
    (hu : pairRow (u, c) ∈ sqlCluster E I) (hv : pairRow (v, c) ∈ sqlCluster E I)
    (hds : I.ds u = I.ds v) (hd : I.ds u ∈ I.dupFree) : False := by
  obtain ⟨hu1, hu2⟩ := (mem_sqlCluster E I htf u c).mp hu
  obtain ⟨hv1, hv2⟩ := (mem_sqlCluster E I htf v c).mp hv
  exact C12.dupfree_respected I zeroOracle zeroOracle u v hu1 hv1 huv (by rw [← hu2, ← hv2]) hds hd

/-- Two records share a returned cluster and are joined by a kept edge (either orientation). -/
def SqlAdj (I : Inst) (S : List Row) (a b : Nat) : Prop :=
  (∃ c, pairRow (a, c) ∈ S ∧ pairRow (b, c) ∈ S) ∧
    ∃ e ∈ kept I, (e.1 = a ∧ e.2.1 = b) ∨ (e.1 = b ∧ e.2.1 = a)

/-- Every returned cluster is connected through kept edges that stay inside the cluster. -/
theorem sql_connected_tie_free (E : DsEnc) (I : Inst) (htf : TieFree I) (u v c : Nat)
    (hu : pairRow (u, c) ∈ sqlCluster E I) (hv : pairRow (v, c) ∈ sqlCluster E I) :
    Reach (SqlAdj I (sqlCluster E I)) u v := by
  have hm := mem_sqlCluster E I htf
  obtain ⟨hu1, hu2⟩ := (hm u c).mp hu
  obtain ⟨hv1, hv2⟩ := (hm v c).mp hv
  have hr := C12.connected_tie_free I zeroOracle zeroOracle htf u v hu1 hv1 (by rw [← hu2, ← hv2])
  refine Lemmas.reach_mono ?_ hr
  intro a b hab
  obtain ⟨ha, hb, hrep, e, he, hor⟩ := (Lemmas.O2O.adjB_iff I _ a b).mp hab
  exact ⟨⟨_, (hm a _).mpr ⟨ha, rfl⟩, (hm b _).mpr ⟨hb, hrep⟩⟩, e, he, hor⟩

/-- Maximality: a kept edge between two different returned clusters joins clusters that both contain a record of one
duplicate-free dataset. -/
theorem sql_maximal_when_tie_free (E : DsEnc) (I : Inst) (htf : TieFree I) (e : OneToOne.Row) (he : e ∈ kept I)
    (c₁ c₂ : Nat) (h1 : pairRow (e.1, c₁) ∈ sqlCluster E I) (h2 : pairRow (e.2.1, c₂) ∈ sqlCluster E I)
    (hne : c₁ ≠ c₂) :
    ∃ d ∈ I.dupFree, (∃ u, pairRow (u, c₁) ∈ sqlCluster E I ∧ I.ds u = d) ∧
      (∃ v, pairRow (v, c₂) ∈ sqlCluster E I ∧ I.ds v = d) := by
  have hm := mem_sqlCluster E I htf
  obtain ⟨ha, hc1⟩ := (hm _ _).mp h1
  obtain ⟨hb, hc2⟩ := (hm _ _).mp h2
  obtain ⟨d, hd, ⟨u, hu, hru, hdu⟩, ⟨v, hv, hrv, hdv⟩⟩ :=
    C12.maximal_when_tie_free I zeroOracle zeroOracle htf e he ha hb (by rw [← hc1, ← hc2]; exact hne)
  exact ⟨d, hd, ⟨u, (hm u c₁).mpr ⟨hu, by rw [hc1, hru]⟩, hdu⟩, ⟨v, (hm v c₂).mpr ⟨hv, by rw [hc2, hrv]⟩, hdv⟩⟩

/-! ### Non-vacuity -/

/-- Dataset numbers as the strings `"0"`, `"1"`, …. -/
def strEnc : DsEnc where
  enc := fun d => Val.str (Nat.repr d)
  nonnull := by intro d; simp
  inj := by
    intro a b h
    have h' : Nat.repr a = Nat.repr b := by injection h
    exact Nat.repr_inj.mp h'

/-- Example 1 of `tests/test_cluster_using_single_best_links.py` with its two ties broken (`C12.Ex1`: tie-free): the SQL
pipeline under `Rel.eval` takes four passes and returns the clusters the test expects. -/
example : OtoSql.trace (nodesTbl strEnc C12.Ex1) (OtoSql.edgeRows C12.Ex1.edges) (sdsOf strEnc C12.Ex1) (thrVal C12.Ex1)
    (sqlFuel C12.Ex1) = [2, 2, 2, 0] :=
  (sql_trace_eq_model strEnc C12.Ex1 zeroOracle zeroOracle (by decide +kernel)).trans (by decide +kernel)

example : (sqlCluster strEnc C12.Ex1).map (fun r => (r.getD 0 Val.null, r.getD 1 Val.null)) =
    [(4, 1), (2, 2), (7, 1), (5, 2), (3, 0), (1, 1), (6, 0), (0, 0), (8, 8)].map
      fun (p : Int × Int) => (Val.int p.1, Val.int p.2) := by decide +kernel

/-- Why the refinement carries `TieFree`: records `a0 b1 b2`, dataset `b` duplicate-free, two edges `1–0`, `2–0` of EQUAL
probability.  SQL's `row_number()` gives rank 1 to exactly one of the two tied rows of a partition (which one is the
engine's choice), so a real engine merges only one `b` record with `a0` (and `C12.dupfree_respected` holds for every
tie-break oracle); `Rel.rowNumber` numbers both tied rows 1 — the union of the admissible outcomes — and the pipeline
under `Rel.eval` then accepts both rows and returns ONE cluster holding `b1` and `b2`, an outcome no engine produces.
On tied inputs `Rel.eval` of these statements is therefore not a model of the engines, and nothing is claimed. -/
def Tied3 : Inst where
  n := 3
  ds := fun v => if v = 0 then 0 else 1
  dupFree := [1]
  edges := [(1, 0, 7), (2, 0, 7)]
  thr := none

example : ¬ TieFree Tied3 := by decide
example : (sqlCluster strEnc Tied3).map (fun r => (r.getD 0 Val.null, r.getD 1 Val.null)) =
    [(1, 0), (2, 0), (0, 0)].map fun (p : Int × Int) => (Val.int p.1, Val.int p.2) := by decide +kernel

end SplinkVerif.C12Sql
