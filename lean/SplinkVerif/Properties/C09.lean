import SplinkVerif.Lemmas.Serialise
/-!
# C09 — a saved model reloads to the same model

The lemmas per record type are in `Lemmas/Serialise.lean`.  All statements are about
`Model/Serialise.lean`, the method-by-method model of every `as_dict` and of the
dict → creators → `Settings` construction path, for **every** settings object: any number of
comparisons, levels and rules, any strings, any numeric tokens.

`Version.patched` is `CustomComparison.create_description` as /repo has it
(`return self._description or super().create_description()`, the repair of defect F9);
`Version.current` is the method before that repair, which returned the class name whatever the user
wrote.  The well-formedness predicates are `Bool` functions (`Settings.wf`, `Comparison.wf`,
`Level.wf`, `Rule.wf` in the model, `Lemmas.LevelDict.wf` in `Lemmas/Serialise.lean`); everything
built through the public API satisfies them (`constructed_level_wf`, `training_keeps_wf`; checked
against the real objects by the harness).
-/
namespace SplinkVerif.C09
open SplinkVerif.Serialise

/-- **Other backend.** Loading on backend `b'` changes the dialect stamps and nothing else. -/
theorem roundtrip_other_backend (v : Version) (defName : List Level → String) (b b' uid : String)
    (s : Settings) (h : s.wf v b = true) : reload v defName b' uid s = s.withDialect b' := by
  obtain ⟨linkType, prior, rm, ri, add, dialect, luid, emc, mi, bf, tf, gam, uidc, sds, rules, comps⟩ := s
  simp only [Settings.wf, Bool.and_eq_true] at h
  obtain ⟨⟨⟨_, hu⟩, hr⟩, hc⟩ := h
  cases luid with
  | none => cases hu
  | some u =>
    simp only [reload, Settings.fromDict, Settings.asDict, Settings.withDialect, Option.getD_some,
      Lemmas.rules_reload b b' rules hr, Lemmas.comparisons_roundtrip v defName comps hc]

/-- **Round trip.** Saving a well-formed model and loading the JSON into a new linker on the same
backend gives back exactly the same model state (every parameter, rule, option, label and
description; `defName` and the fresh uid are irrelevant because nothing is missing from the JSON). -/
theorem roundtrip (v : Version) (defName : List Level → String) (b uid : String) (s : Settings)
    (h : s.wf v b = true) : reload v defName b uid s = s := by
  rw [roundtrip_other_backend v defName b b uid s h, Lemmas.settings_withDialect_self v b s h]

/-- **Scores.** On any backend the reloaded model has the same comparisons (SQL of every level,
m, u, TF column / weight / minimum-u, null and fix flags — the inputs of C02's score) and the same
prior: `predict()` evaluates the same expressions with the same constants. -/
theorem scores_equal_after_reload (v : Version) (defName : List Level → String) (b b' uid : String)
    (s : Settings) (h : s.wf v b = true) :
    (reload v defName b' uid s).comparisons = s.comparisons ∧
    (reload v defName b' uid s).prior = s.prior := by
  rw [roundtrip_other_backend v defName b b' uid s h]
  exact ⟨rfl, rfl⟩

/-- **Second generation identical.** Saving the reloaded model writes the same dictionary. -/
theorem resave_identical (v : Version) (defName : List Level → String) (b uid : String) (s : Settings)
    (h : s.wf v b = true) : (reload v defName b uid s).asDict = s.asDict := by
  rw [roundtrip v defName b uid s h]

/-- The same through any chain of backends: a model moved to `b'` is again well-formed (so every
further save/load is again the identity), and its JSON is the original with the dialect stamps
replaced. -/
theorem resave_other_backend (v : Version) (defName : List Level → String) (b b' uid : String)
    (s : Settings) (h : s.wf v b = true) :
    (reload v defName b' uid s).wf v b' = true ∧
    (reload v defName b' uid s).asDict = (s.withDialect b').asDict := by
  rw [roundtrip_other_backend v defName b b' uid s h]
  exact ⟨Lemmas.settings_withDialect_wf v b b' s h, rfl⟩

/-- **Construction keeps the user's values** (levels).  A level dictionary goes through
`CustomLevel` → `ComparisonLevel` → `as_dict` → `ComparisonLevel` when a model is built; the result
is the plain constructor applied to the user's dictionary — whatever the numbers are (weights and
probabilities of 0 and 1 included), whatever the label and flags. -/
theorem construction_preserves_user_values (d : LevelDict) (h : Lemmas.LevelDict.wf d = true) :
    Level.fromDict d = Level.ofDict (creatorLevelDict d) :=
  Lemmas.ofDict_asDict "" _ (Lemmas.level_ofDict_wf d h)

/-- Spelled out for the values the property names: a TF weight (e.g. 0), a TF minimum u, m and u
(e.g. 0 or 1) and a label written by the user are the values of the constructed level. -/
theorem user_values_preserved (d : LevelDict) (h : Lemmas.LevelDict.wf d = true)
    (c lab : String) (w mu m u : Num)
    (hc : d.tf_adjustment_column = some c) (hw : d.tf_adjustment_weight = some w)
    (hmu : d.tf_minimum_u_value = some mu) (hm : d.m_probability = some m)
    (hu : d.u_probability = some u) (hl : d.label_for_charts = some lab) :
    (Level.fromDict d).tfCol = some c ∧ (Level.fromDict d).tfWeight = w ∧
    (Level.fromDict d).tfMinU = mu ∧ (Level.fromDict d).m = .val m ∧ (Level.fromDict d).u = .val u ∧
    (Level.fromDict d).label = some lab := by
  rw [construction_preserves_user_values d h]
  simp [Level.ofDict, creatorLevelDict, hc, hw, hmu, hm, hu, hl, Prob.ofOpt]

/-- … and they are written to the JSON as they are (no truthiness test drops a 0: F3 stays repaired). -/
theorem user_values_saved (cvv : String) (l : Level) (c : String) (n : Num)
    (hc : l.tfCol = some c) (hm : l.m = .val n) :
    (Level.asDict cvv l).tf_adjustment_weight = some l.tfWeight ∧
    (Level.asDict cvv l).m_probability = some n := by
  simp [Level.asDict, hc, hm, Prob.emit]

/-- Settings-level options are taken from the dictionary as written. -/
theorem settings_values_preserved (v : Version) (dn : List Level → String) (b uid : String)
    (d : SettingsDict) (p : Num) (g bf tf u : String) (cols : List String)
    (hp : d.probability_two_random_records_match = some p)
    (hg : d.comparison_vector_value_column_prefix = some g)
    (hbf : d.bayes_factor_column_prefix = some bf)
    (htf : d.term_frequency_adjustment_column_prefix = some tf)
    (hu : d.unique_id_column_name = some u) (ha : d.additional_columns_to_retain = some cols) :
    let s := Settings.fromDict v dn b uid d
    s.prior = p ∧ s.gammaPrefix = g ∧ s.bfPrefix = bf ∧ s.tfPrefix = tf ∧ s.uidCol = u ∧
      s.additionalCols = cols := by
  simp [Settings.fromDict, hp, hg, hbf, htf, hu, ha]

/-- Every constructed level is well-formed … -/
theorem constructed_level_wf (d : LevelDict) (h : Lemmas.LevelDict.wf d = true) :
    (Level.fromDict d).wf = true := by
  rw [construction_preserves_user_values d h]
  exact Lemmas.level_ofDict_wf d h

/-- … and training (assigning numbers to m / u of non-null levels) keeps it so: the round trip
holds at every point of every training history. -/
theorem training_keeps_wf (n : Num) (l : Level) (h : l.wf = true) :
    (l.setM n).wf = true ∧ (l.setU n).wf = true := by
  unfold Level.setM Level.setU
  cases hn : l.isNull with
  | true => exact ⟨h, h⟩
  | false =>
    -- a number is not the not-observed placeholder; nothing else in `wf` reads m or u of a non-null level
    simp only [Level.wf, Bool.and_eq_true] at h ⊢
    obtain ⟨⟨⟨⟨hlab, _⟩, hm⟩, hu⟩, htf⟩ := h
    simp [hlab, hm, hu, htf]

/-- With the one-line repair of F9 (`Version.patched`, the method as /repo has it) a description
written by the user is the description of the constructed comparison. -/
theorem description_preserved_patched (dn : List Level → String) (d : ComparisonDict) (desc : String)
    (hd : d.comparison_description = some desc) (ht : truthy desc = true) :
    (Comparison.fromDict .patched dn d).description = desc := by
  simp [Comparison.fromDict, createDescription, hd, Lemmas.orElse_some_truthy ht]

/-! ## Defect F9 (repaired in /repo)

With `create_description` as it was, a comparison description does not survive: `roundtrip` at
`Version.current` needs `Comparison.wf .current`, i.e. every description equal to the class name,
and `f9_description_lost` shows that this hypothesis cannot be dropped. -/

/-- The witness: one `ExactMatch`-like comparison whose description is not `"CustomComparison"`. -/
def f9Witness : Settings :=
  { linkType := "dedupe_only", prior := .flt tenThousandthBits, retainMatching := true,
    retainIntermediate := false, additionalCols := [], dialect := "duckdb", linkerUid := some "u",
    emConvergence := .flt tenThousandthBits, maxIterations := .int 25, bfPrefix := "bf_",
    tfPrefix := "tf_", gammaPrefix := "gamma_", uidCol := "unique_id", sdsCol := "source_dataset",
    rules := [], comparisons := [
      { outputColumnName := "a", description := "ExactMatch",
        levels := [
          { sql := "a_l = a_r", label := some "Exact match on a", isNull := false, tfCol := none,
            tfWeight := .flt oneBits, tfMinU := .flt 0, disableTf := false, m := .unset, u := .unset,
            fixM := false, fixU := false }] }] }

/-- F9 (negation of the full round trip for `Version.current`, the code before the repair): the witness
is well-formed in every other respect, yet reloading changes it and the second-generation JSON differs
from the first. -/
theorem f9_description_lost :
    f9Witness.wf .patched "duckdb" = true ∧
    reload .current (fun _ => "") "duckdb" "u" f9Witness ≠ f9Witness ∧
    (reload .current (fun _ => "") "duckdb" "u" f9Witness).asDict ≠ f9Witness.asDict := by
  decide +kernel

/-- F9 at construction (`Version.current`): a user's `comparison_description` is replaced by the class name. -/
theorem f9_user_description_replaced :
    (Comparison.fromDict .current (fun _ => "")
      { output_column_name := some "a", comparison_levels := [],
        comparison_description := some "my description" }).description = "CustomComparison" := by
  decide

/-- `roundtrip_partial` (`Version.current`, the code before the repair of F9): the round trip and the
identical second generation hold for every model whose comparison descriptions are all the class name —
which is what that code produces from a *dictionary or JSON file*, and never from the `comparison_library`
creators. -/
theorem roundtrip_partial (defName : List Level → String) (b uid : String) (s : Settings)
    (h : s.wf .current b = true) :
    reload .current defName b uid s = s ∧ (reload .current defName b uid s).asDict = s.asDict := by
  rw [roundtrip .current defName b uid s h]
  exact ⟨rfl, rfl⟩

/-- A level holding the `LEVEL_NOT_OBSERVED_TEXT` placeholder as its m value. -/
def notObservedLevel : Level :=
  { sql := "ELSE", label := some "x", isNull := false, tfCol := none, tfWeight := .flt oneBits,
    tfMinU := .flt 0, disableTf := false, m := .notObserved, u := .val (.flt 0), fixM := false,
    fixU := false }

/-- The not-observed placeholder is not serialised either (a level holding it would reload as
untrained and score with the positional default instead of `1e-6`); `Level.wf` excludes it and the
harness checks that no linker state reachable by training holds it. -/
theorem not_observed_placeholder_not_saved :
    (Level.asDict "0" notObservedLevel).m_probability = none := by
  decide

/-- A model with prior 0.3, TF weight 0, TF minimum u 0.01, u = 0, m = 1, a fixed u of 0.9, a null
level, a salted and an exploding rule and custom prefixes (floats are given by their IEEE bits).  The
examples below evaluate that it satisfies the hypotheses of the theorems above and round-trips. -/
def sample (desc : String) : Settings :=
  { linkType := "link_only", prior := .flt 4599075939470750515, retainMatching := false,
    retainIntermediate := true, additionalCols := ["b"], dialect := "duckdb", linkerUid := some "abc",
    emConvergence := .flt tenThousandthBits, maxIterations := .int 3, bfPrefix := "B_",
    tfPrefix := "t_", gammaPrefix := "g_", uidCol := "uid", sdsCol := "sds",
    rules := [.plain "l.a = r.a" "duckdb", .salted "l.b = r.b" "duckdb" 3,
              .exploding "l.arr = r.arr" "duckdb" ["arr"]],
    comparisons := [
      { outputColumnName := "a", description := desc,
        levels := [
          { sql := "a_l IS NULL OR a_r IS NULL", label := some "Null", isNull := true, tfCol := none,
            tfWeight := .flt oneBits, tfMinU := .flt 0, disableTf := false, m := .unset, u := .unset,
            fixM := false, fixU := false },
          { sql := "a_l = a_r", label := some "Exact", isNull := false, tfCol := some "a",
            tfWeight := .int 0, tfMinU := .flt 4576918229304087675, disableTf := true,
            m := .val (.int 1), u := .val (.int 0), fixM := true, fixU := false },
          { sql := "ELSE", label := some "Else", isNull := false, tfCol := none,
            tfWeight := .flt oneBits, tfMinU := .flt 0, disableTf := false, m := .unset,
            u := .val (.flt 4606281698874543309), fixM := false, fixU := true }] }] }

example : (sample "my description").wf .patched "duckdb" = true := by decide +kernel
example : (sample "CustomComparison").wf .current "duckdb" = true := by decide +kernel
example : reload .patched (fun _ => "") "duckdb" "zzz" (sample "my description") = sample "my description" := by
  decide +kernel
example : reload .patched (fun _ => "") "sqlite" "zzz" (sample "d") = (sample "d").withDialect "sqlite" := by
  decide +kernel
/-- the saved level keeps weight 0, u = 0, m = 1 -/
example : ((sample "d").asDict.comparisons.map (fun c => c.comparison_levels.map
    (fun l => (l.tf_adjustment_weight, l.m_probability, l.u_probability)))) =
    [[(none, none, none), (some (.int 0), some (.int 1), some (.int 0)),
      (none, none, some (.flt 4606281698874543309))]] := by decide
/-- comparison vector values as `Comparison.__init__` numbers them: null level -1, the others counting down to 0 -/
example : cvvStrs (sample "d").comparisons.head!.levels 1 = ["-1", "1", "0"] := by decide

end SplinkVerif.C09
