import SplinkVerif.Lemmas.EMMBridge
import SplinkVerif.Lemmas.EMMBridgeWitness
import SplinkVerif.Lemmas.EMMBridgeRun
import Mathlib.Data.List.Chain
/-!
# C03 (M-step bridge) — the executable `EM.step` is the abstract EM step, and never lowers
the log-likelihood of the rows

`Properties/C03Likelihood.lean` proves likelihood monotonicity for the abstract step
`EML.emStep`; `Properties/C03Bridge.lean` identifies the executable E-step `EM.eProb` with the
abstract posterior.  Here the executable **M-step** — the
`foldl` sums `mCount`/`uCount`/`lambdaNew`, the `eraseDups` group list `observedValues`, the
window normalisation `denomM`/`denomU`, the look-up by `comparison_vector_value`, the
`LEVEL_NOT_OBSERVED` value 1e-6, the session-level fix flags, `zipWith3Idx` — computes exactly
`EML.emStep` of the abstraction, so `loglik_mono` becomes a theorem about `EM.step`.

## The abstract objects (all defined from the executable ones, `Lemmas/EMMBridge.lean`)

* index set `J = Fin rows.length`; `rowPatterns θ rows j = absPattern θ rows[j]`;
  `rowWeights rows j = rows[j].count`; placeholder `1/1000000`; flags `sess.fixM`,
  `sess.fixU`, `sess.fixLambda`;
* `absParams θ` (`Lemmas/EMBridge.lean`): one slot per level *position*, also for the null level;
* `absParamsC θ`: the same with the slots of null levels — which no pattern ever reads — set to
  the placeholder (`EM.step` leaves whatever is stored there, `EML.emStep` writes the
  placeholder, see `step_is_abstract_emstep_deviates_when_null_slot_not_placeholder`);
* `castParams hC hL p`: `p` re-indexed along the proved equalities
  `(EM.step sess θ rows).comps.length = θ.comps.length` and `absL (EM.step …) c = absL θ c`
  (the types `EML.Params _ _` of the two sides differ syntactically);
* `execLik θ r = prior · ∏_c m_c(level of r) + (1 − prior) · ∏_c u_c(level of r)` where the level
  of `r` in comparison `c` is the first level carrying `gammaAt θ r c` (the look-up
  `Score.bfColumn` performs) and a null level contributes 1; `execLogLik θ rows =
  ∑_{r ∈ rows} r.count · log (execLik θ r)`.  No abstraction is involved in these two.

## Hypotheses (each a predicate of `Lemmas/EMMBridge.lean`, unfolded here)

E-step bridge (inherited from `C03B.eprob_is_posterior`): `0 < θ.prior < 1`;
`NoTf θ` (no term-frequency adjusted level); `PositiveMU θ` (`m`, `u` > 0 on non-null levels);
`GuardsMatch θ rows` (every row has one list of condition outcomes per comparison);
`EveryComparisonAssignsLevel θ rows` (`gamma_c` is never NULL — e.g. every comparison has an
`ELSE` level).

Well-formedness of the model:
* `NullIsMinusOne θ` — a level is the null level iff it carries the value −1.  **Necessary**:
  `loglik_mono_executable_deviates_when_null_flag_mismatch`.
* `DistinctValues θ` — the values of a comparison's levels are distinct.  **Necessary for the
  equality** (`step_is_abstract_emstep_deviates_when_duplicate_value`: the look-up by value
  hands a duplicate the estimate of the first level, the abstract step the placeholder); *not*
  needed for `loglik_mono_executable`, because the likelihood only reads the first level of a
  value.
* `SameShape θ` — `θ.states` has the shape of `θ.comps` (otherwise `zipWith3Idx` truncates:
  `step_deviates_when_states_shape_differs`).
* `LevelFlagsOff θ` — no level-level `fix_m_probability`/`fix_u_probability`.  **Necessary, and
  a finding about the code**: `loglik_mono_executable_deviates_when_level_fix_flag`.  With a
  fixed level the free levels still receive `count / (window sum over ALL levels)`, i.e. the
  fixed level's share of the mass is removed from the others while the fixed level keeps its
  old value; from a normalised start one EM iteration then strictly lowers the log-likelihood.

For monotonicity in addition: positive counts, and `SubNormalisedM/U θ rows` (for every
comparison the current `m` (`u`) of the levels whose value occurs among the rows' non-null
`gamma_c` sum to ≤ 1) — necessary, `loglik_mono_executable_deviates_when_not_subnormalised`
(K8 on the executable model).  `rows` may be empty.

Not covered: term-frequency adjustments, `u = 0`, floating point.  The E-step hypotheses are those
of `C03B`; nothing here shows that they are necessary.
-/
namespace SplinkVerif.C03MB
open SplinkVerif SplinkVerif.Score SplinkVerif.Lemmas SplinkVerif.Lemmas.EMBridge
open SplinkVerif.Lemmas.EMMBridge

/-! ## 1. The step -/

/-- With all level-level fix flags off, `EM.step` consists of `newLevel` applied to every level:
the null level is untouched, `m`/`u` fixed for the session stay, otherwise the level receives
the looked-up proportion or 1e-6. -/
theorem step_is_newLevel_levelwise (sess : EM.Session) (θ : EM.Params ℝ) (rows : List (EM.Row ℝ))
    (hshape : SameShape θ) (hflags : LevelFlagsOff θ) :
    (EM.step sess θ rows).comps = θ.comps.mapIdx fun ci c => c.map (newLevel sess θ rows ci) :=
  step_comps sess θ rows hshape hflags

/-- The sum `sum(match_probability * count) … group by gamma_c` (a `foldl` over a filtered
list) at the value of a non-null level that is the first carrying its value is the abstract
count `∑_{j : γ_j c = i} n_j · post_j`. -/
theorem mcount_is_abstract_count (θ : EM.Params ℝ) (rows : List (EM.Row ℝ))
    (c : Fin θ.comps.length) (i : Fin (absL θ c)) (hfirst : IsFirst θ c i)
    (hn : (levelAt θ c i).isNull = false) (hg : GuardsMatch θ rows) (hE : EStepBridged θ rows) :
    EM.mCount θ rows c.val (levelAt θ c i).cvv =
      EML.cnt (rowPatterns θ rows)
        (EML.wM (rowPatterns θ rows) (rowWeights rows) (absParams θ)) c i := by
  rw [Lemmas.EM.mCount_eq]
  exact filter_sum_eq_cnt θ rows c i hfirst hn hg _ _ (wM_row θ rows hE)

/-- The window sum over the groups that survive `comparison_vector_value != -1` (a `foldl` over
the `eraseDups` list `observedValues`) is the abstract `∑_{j : γ_j c ≠ null} n_j · post_j`. -/
theorem denominator_is_abstract_window_sum (θ : EM.Params ℝ) (rows : List (EM.Row ℝ))
    (c : Fin θ.comps.length) (hnull : ∀ l ∈ θ.comps[c.val], (l.isNull = true ↔ l.cvv = -1))
    (hg : GuardsMatch θ rows) (hE : EStepBridged θ rows) :
    EM.denomM θ rows c.val =
      EML.den (rowPatterns θ rows)
        (EML.wM (rowPatterns θ rows) (rowWeights rows) (absParams θ)) c := by
  rw [Lemmas.EM.denomM_rows]
  exact filter_sum_eq_den θ rows c hnull hg _ _ (wM_row θ rows hE)

/-- `sum(p * count) / sum(count)` is the abstract `lamNew`. -/
theorem lambda_is_abstract_lambda (θ : EM.Params ℝ) (rows : List (EM.Row ℝ))
    (hE : EStepBridged θ rows) :
    EM.lambdaNew θ rows = EML.lamNew (rowPatterns θ rows) (rowWeights rows) (absParams θ) :=
  lambdaNew_eq_lamNew θ rows hE

/-- A first position occurs in the abstract data iff its value is among `observedValues`. -/
theorem observed_is_abstract_observed (θ : EM.Params ℝ) (rows : List (EM.Row ℝ))
    (c : Fin θ.comps.length) (i : Fin (absL θ c)) (hfirst : IsFirst θ c i)
    (hnull : ∀ l ∈ θ.comps[c.val], (l.isNull = true ↔ l.cvv = -1)) (hg : GuardsMatch θ rows) :
    EML.Observed (rowPatterns θ rows) c i ↔
      (levelAt θ c i).cvv ∈ EM.observedValues θ rows c.val :=
  observed_iff θ rows c i hfirst hnull hg

/-- **M-step bridge (equality of abstract parameters).**  The canonical abstraction of the
parameters after `EM.step` is `EML.emStep` — session flags `fixM`, `fixU`, `fixLambda`,
placeholder 1e-6, data `J = Fin rows.length`, `γ_j = absPattern θ rows[j]`,
`n_j = rows[j].count` — of the canonical abstraction of the parameters before. -/
theorem step_is_abstract_emstep (sess : EM.Session) (θ : EM.Params ℝ) (rows : List (EM.Row ℝ))
    (hl0 : 0 < θ.prior) (hl1 : θ.prior < 1)
    (hnotf : ∀ c ∈ θ.comps, hasTf c = false)
    (hpos : ∀ c ∈ θ.comps, ∀ l ∈ c, l.isNull = false → 0 < l.m ∧ 0 < l.u)
    (hnd : ∀ c ∈ θ.comps, (c.map (·.cvv)).Nodup)
    (hnull : ∀ c ∈ θ.comps, ∀ l ∈ c, (l.isNull = true ↔ l.cvv = -1))
    (hshape : θ.states.map List.length = θ.comps.map List.length)
    (hflags : ∀ sts ∈ θ.states, ∀ st ∈ sts, st.fixM = false ∧ st.fixU = false)
    (hg : ∀ r ∈ rows, r.pair.guards.length = θ.comps.length)
    (htot : ∀ r ∈ rows, ∀ c, c < θ.comps.length → (EM.gammaAt θ r c).isSome = true) :
    absParamsC (EM.step sess θ rows) =
      castParams (step_comps_length sess θ rows hshape hflags)
        (step_absL sess θ rows hshape hflags)
        (EML.emStep sess.fixM sess.fixU sess.fixLambda (1 / 1000000) (rowPatterns θ rows)
          (rowWeights rows) (absParamsC θ)) :=
  absParamsC_step sess θ rows hshape hflags hnd hnull hg
    (eStepBridged_of θ rows hl0 hl1 hnotf hpos hg htot)

/-- **M-step bridge on the position-indexed abstraction `absParams` (`Lemmas/EMBridge.lean`).**  After
`EM.step`: the prior is the abstract `lam`; at every position holding a non-null level, `m` and
`u` are those of `EML.emStep … (absParams θ)`; a position holding the null level keeps what was
stored there. -/
theorem step_is_abstract_emstep_positions (sess : EM.Session) (θ : EM.Params ℝ)
    (rows : List (EM.Row ℝ))
    (hl0 : 0 < θ.prior) (hl1 : θ.prior < 1)
    (hnotf : ∀ c ∈ θ.comps, hasTf c = false)
    (hpos : ∀ c ∈ θ.comps, ∀ l ∈ c, l.isNull = false → 0 < l.m ∧ 0 < l.u)
    (hnd : ∀ c ∈ θ.comps, (c.map (·.cvv)).Nodup)
    (hnull : ∀ c ∈ θ.comps, ∀ l ∈ c, (l.isNull = true ↔ l.cvv = -1))
    (hshape : θ.states.map List.length = θ.comps.map List.length)
    (hflags : ∀ sts ∈ θ.states, ∀ st ∈ sts, st.fixM = false ∧ st.fixU = false)
    (hg : ∀ r ∈ rows, r.pair.guards.length = θ.comps.length)
    (htot : ∀ r ∈ rows, ∀ c, c < θ.comps.length → (EM.gammaAt θ r c).isSome = true) :
    (absParams (EM.step sess θ rows)).lam =
      (EML.emStep sess.fixM sess.fixU sess.fixLambda (1 / 1000000) (rowPatterns θ rows)
        (rowWeights rows) (absParams θ)).lam ∧
    ∀ (c : Fin (EM.step sess θ rows).comps.length) (i : Fin (absL (EM.step sess θ rows) c)),
      ((levelAt (EM.step sess θ rows) c i).isNull = false →
        (absParams (EM.step sess θ rows)).m c i =
          (castParams (step_comps_length sess θ rows hshape hflags)
            (step_absL sess θ rows hshape hflags)
            (EML.emStep sess.fixM sess.fixU sess.fixLambda (1 / 1000000) (rowPatterns θ rows)
              (rowWeights rows) (absParams θ))).m c i ∧
        (absParams (EM.step sess θ rows)).u c i =
          (castParams (step_comps_length sess θ rows hshape hflags)
            (step_absL sess θ rows hshape hflags)
            (EML.emStep sess.fixM sess.fixU sess.fixLambda (1 / 1000000) (rowPatterns θ rows)
              (rowWeights rows) (absParams θ))).u c i) ∧
      ((levelAt (EM.step sess θ rows) c i).isNull = true →
        (absParams (EM.step sess θ rows)).m c i =
          (castParams (step_comps_length sess θ rows hshape hflags)
            (step_absL sess θ rows hshape hflags) (absParams θ)).m c i ∧
        (absParams (EM.step sess θ rows)).u c i =
          (castParams (step_comps_length sess θ rows hshape hflags)
            (step_absL sess θ rows hshape hflags) (absParams θ)).u c i) := by
  have hE := eStepBridged_of θ rows hl0 hl1 hnotf hpos hg htot
  refine ⟨step_prior_eq sess θ rows hE, fun c i => ?_⟩
  show (_ → (levelAt (EM.step sess θ rows) c i).m = _ ∧ (levelAt (EM.step sess θ rows) c i).u = _) ∧
    (_ → (levelAt (EM.step sess θ rows) c i).m = _ ∧ (levelAt (EM.step sess θ rows) c i).u = _)
  rw [step_levelAt sess θ rows hshape hflags c i, newLevel_isNull]
  refine ⟨fun hn => newLevel_eq_absStep sess θ rows _ _ (isFirst_of_distinct θ hnd _ _) hnull hn
    hg hE, fun hn => ?_⟩
  rw [newLevel_null _ _ _ _ _ hn]
  exact ⟨rfl, rfl⟩

/-! ## 2. The log-likelihood -/

/-- The log-likelihood of executable parameters, defined from the executable model alone, is
`EML.logLik` of their abstraction. -/
theorem executable_loglik_is_abstract_loglik (θ : EM.Params ℝ) (rows : List (EM.Row ℝ))
    (hg : ∀ r ∈ rows, r.pair.guards.length = θ.comps.length) :
    execLogLik θ rows = EML.logLik (rowPatterns θ rows) (rowWeights rows) (absParams θ) :=
  execLogLik_abs θ rows hg

/-- The log-likelihood of the parameters after `EM.step` is `EML.logLik` of `EML.emStep` of the
abstraction of the parameters before (no `DistinctValues` needed). -/
theorem executable_loglik_after_step (sess : EM.Session) (θ : EM.Params ℝ)
    (rows : List (EM.Row ℝ))
    (hl0 : 0 < θ.prior) (hl1 : θ.prior < 1)
    (hnotf : ∀ c ∈ θ.comps, hasTf c = false)
    (hpos : ∀ c ∈ θ.comps, ∀ l ∈ c, l.isNull = false → 0 < l.m ∧ 0 < l.u)
    (hnull : ∀ c ∈ θ.comps, ∀ l ∈ c, (l.isNull = true ↔ l.cvv = -1))
    (hshape : θ.states.map List.length = θ.comps.map List.length)
    (hflags : ∀ sts ∈ θ.states, ∀ st ∈ sts, st.fixM = false ∧ st.fixU = false)
    (hg : ∀ r ∈ rows, r.pair.guards.length = θ.comps.length)
    (htot : ∀ r ∈ rows, ∀ c, c < θ.comps.length → (EM.gammaAt θ r c).isSome = true) :
    execLogLik (EM.step sess θ rows) rows =
      EML.logLik (rowPatterns θ rows) (rowWeights rows)
        (EML.emStep sess.fixM sess.fixU sess.fixLambda (1 / 1000000) (rowPatterns θ rows)
          (rowWeights rows) (absParams θ)) :=
  execLogLik_step sess θ rows hshape hflags hnull hg
    (eStepBridged_of θ rows hl0 hl1 hnotf hpos hg htot)

/-- **One iteration of the executable EM never lowers the log-likelihood of the rows**, for all
eight combinations of the session-level fix flags. -/
theorem loglik_mono_executable (sess : EM.Session) (θ : EM.Params ℝ) (rows : List (EM.Row ℝ))
    (hl0 : 0 < θ.prior) (hl1 : θ.prior < 1)
    (hnotf : ∀ c ∈ θ.comps, hasTf c = false)
    (hpos : ∀ c ∈ θ.comps, ∀ l ∈ c, l.isNull = false → 0 < l.m ∧ 0 < l.u)
    (hnull : ∀ c ∈ θ.comps, ∀ l ∈ c, (l.isNull = true ↔ l.cvv = -1))
    (hshape : θ.states.map List.length = θ.comps.map List.length)
    (hflags : ∀ sts ∈ θ.states, ∀ st ∈ sts, st.fixM = false ∧ st.fixU = false)
    (hg : ∀ r ∈ rows, r.pair.guards.length = θ.comps.length)
    (htot : ∀ r ∈ rows, ∀ c, c < θ.comps.length → (EM.gammaAt θ r c).isSome = true)
    (hcount : ∀ r ∈ rows, 0 < r.count)
    (hsubm : ∀ c (hc : c < θ.comps.length),
      (((θ.comps[c]).filter fun l => (EM.observedValues θ rows c).contains l.cvv).map
        (·.m)).sum ≤ 1)
    (hsubu : ∀ c (hc : c < θ.comps.length),
      (((θ.comps[c]).filter fun l => (EM.observedValues θ rows c).contains l.cvv).map
        (·.u)).sum ≤ 1) :
    execLogLik θ rows ≤ execLogLik (EM.step sess θ rows) rows :=
  execLogLik_mono sess θ rows hl0 hl1 hnotf hpos hnull hshape hflags hg htot hcount hsubm hsubu

/-! ## 3. Every iteration of a run

`StepOK θ rows` (`Lemmas/EMMBridgeRun.lean`) bundles the hypotheses of `step_is_abstract_emstep`
and `loglik_mono_executable` — `0 < θ.prior < 1`, `NoTf θ`, `PositiveMU θ`, `DistinctValues θ`,
`NullIsMinusOne θ`, `SameShape θ`, `LevelFlagsOff θ`, `GuardsMatch θ rows`,
`EveryComparisonAssignsLevel θ rows`, positive counts, `SubNormalisedM/U θ rows` — and
`rows ≠ []` (without rows the new prior is `0/0 = 0`).  `DistinctValues`, which
`loglik_mono_executable` does without, is what lets `SubNormalisedM/U` survive the step. -/

/-- Every hypothesis holds again for the parameters after `EM.step`, so both theorems apply
to every iteration. -/
theorem hypotheses_preserved_by_step (sess : EM.Session) (θ : EM.Params ℝ)
    (rows : List (EM.Row ℝ)) (h : StepOK θ rows) : StepOK (EM.step sess θ rows) rows :=
  stepOK_step sess θ rows h

theorem run_head (sess : EM.Session) (rows : List (EM.Row ℝ)) (conv : ℝ) (n : ℕ)
    (θ : EM.Params ℝ) : (EM.run sess rows conv n θ).head? = some θ := by
  cases n with
  | zero => rfl
  | succ n =>
    unfold EM.run
    simp only
    split <;> rfl

/-- **Along the history returned by `EM.run`** — any convergence threshold, any bound on the
number of iterations — every set of parameters satisfies the hypotheses, and the
log-likelihood of the rows never decreases from one entry to the next. -/
theorem run_loglik_monotone (sess : EM.Session) (rows : List (EM.Row ℝ)) (conv : ℝ) (n : ℕ)
    (θ : EM.Params ℝ) (h : StepOK θ rows) :
    (∀ θ' ∈ EM.run sess rows conv n θ, StepOK θ' rows) ∧
    List.IsChain (fun a b => execLogLik a rows ≤ execLogLik b rows)
      (EM.run sess rows conv n θ) := by
  induction n generalizing θ with
  | zero =>
    unfold EM.run
    exact ⟨List.forall_mem_singleton.2 h, List.isChain_singleton _⟩
  | succ n ih =>
    have h' := stepOK_step sess θ rows h
    have hm := stepOK_mono sess θ rows h
    unfold EM.run
    simp only
    split
    · exact ⟨List.forall_mem_cons.2 ⟨h, List.forall_mem_singleton.2 h'⟩, List.isChain_pair.2 hm⟩
    · obtain ⟨ih1, ih2⟩ := ih (EM.step sess θ rows) h'
      refine ⟨List.forall_mem_cons.2 ⟨h, ih1⟩, List.isChain_cons.2 ⟨fun y hy => ?_, ih2⟩⟩
      rw [run_head] at hy
      cases hy
      exact hm

/-- … hence the log-likelihood of every later entry is at least that of every earlier one. -/
theorem run_loglik_pairwise (sess : EM.Session) (rows : List (EM.Row ℝ)) (conv : ℝ) (n : ℕ)
    (θ : EM.Params ℝ) (h : StepOK θ rows) :
    List.Pairwise (fun a b => execLogLik a rows ≤ execLogLik b rows)
      (EM.run sess rows conv n θ) :=
  have : Trans (fun a b : EM.Params ℝ => execLogLik a rows ≤ execLogLik b rows)
      (fun a b => execLogLik a rows ≤ execLogLik b rows)
      (fun a b => execLogLik a rows ≤ execLogLik b rows) := ⟨fun h1 h2 => le_trans h1 h2⟩
  List.isChain_iff_pairwise.mp (run_loglik_monotone sess rows conv n θ h).2

/-! ## 4. Non-vacuity

`Ex.θ`: prior 1/10; two comparisons, each `[null (−1), exact (1), else (0)]` with
`m = (9/10, 1/10)`, `u = (1/10, 9/10)` resp. `m = (8/10, 2/10)`, `u = (2/10, 8/10)`;
`Ex.rows`: the patterns `(1,0)`×3, `(null,1)`×1, `(0,0)`×2, `(1,1)`×1.  The hypotheses are
proved in `Lemmas/EMMBridgeWitness.lean` by evaluation and `norm_num`. -/

example (sess : EM.Session) :
    absParamsC (EM.step sess Ex.θ Ex.rows) =
      castParams (step_comps_length sess Ex.θ Ex.rows Ex.shape Ex.flags)
        (step_absL sess Ex.θ Ex.rows Ex.shape Ex.flags)
        (EML.emStep sess.fixM sess.fixU sess.fixLambda (1 / 1000000) (rowPatterns Ex.θ Ex.rows)
          (rowWeights Ex.rows) (absParamsC Ex.θ)) :=
  step_is_abstract_emstep sess Ex.θ Ex.rows Ex.prior_pos Ex.prior_lt Ex.noTf Ex.positive
    Ex.distinct Ex.nullMinusOne Ex.shape Ex.flags Ex.guards Ex.total

example (sess : EM.Session) :
    execLogLik Ex.θ Ex.rows ≤ execLogLik (EM.step sess Ex.θ Ex.rows) Ex.rows :=
  loglik_mono_executable sess Ex.θ Ex.rows Ex.prior_pos Ex.prior_lt Ex.noTf Ex.positive
    Ex.nullMinusOne Ex.shape Ex.flags Ex.guards Ex.total Ex.counts Ex.subM Ex.subU

example : StepOK Ex.θ Ex.rows := Ex.stepOK

/-! ## 5. Where the executable model deviates

Each theorem drops one hypothesis and names parameters (`Lemmas/EMMBridgeWitness.lean`) that meet
the others and on which the conclusion fails. -/

/-- **Level-level fix flags (finding).**  There are a session, parameters and rows satisfying
every hypothesis of `loglik_mono_executable` except that one level has `fix_m_probability`
set, for which one `EM.step` strictly lowers the log-likelihood.  (One comparison, levels `A`
with `m` fixed at 1/10 and `B` at 9/10, `u` and the prior fixed for the session, one row on
each level: `B` receives its share 1/2 of the window sum, which includes `A`'s rows, while `A`
keeps 1/10.) -/
theorem loglik_mono_executable_deviates_when_level_fix_flag :
    ∃ (sess : EM.Session) (θ : EM.Params ℝ) (rows : List (EM.Row ℝ)),
      0 < θ.prior ∧ θ.prior < 1 ∧ NoTf θ ∧ PositiveMU θ ∧ DistinctValues θ ∧ NullIsMinusOne θ ∧
      SameShape θ ∧ GuardsMatch θ rows ∧ EveryComparisonAssignsLevel θ rows ∧
      (∀ r ∈ rows, 0 < r.count) ∧ SubNormalisedM θ rows ∧ SubNormalisedU θ rows ∧
      ¬ LevelFlagsOff θ ∧
      execLogLik (EM.step sess θ rows) rows < execLogLik θ rows :=
  ⟨Fix.sess, Fix.θ, Fix.rows, Fix.prior_pos, Fix.prior_lt, Fix.noTf, Fix.positive, Fix.distinct,
    Fix.nullMinusOne, Fix.shape, Fix.guards, Fix.total, Fix.counts, Fix.subM, Fix.subU,
    Fix.flags_on, Fix.decrease⟩

/-- **Duplicate values.**  With two levels of a comparison carrying the same value (all other
hypotheses of `step_is_abstract_emstep` in place) the equality fails: the look-up by value
gives the second level the estimate of the first, the abstract step gives it the placeholder
(no pattern points to it). -/
theorem step_is_abstract_emstep_deviates_when_duplicate_value :
    ∃ (sess : EM.Session) (θ : EM.Params ℝ) (rows : List (EM.Row ℝ))
      (hshape : SameShape θ) (hflags : LevelFlagsOff θ),
      0 < θ.prior ∧ θ.prior < 1 ∧ NoTf θ ∧ PositiveMU θ ∧ NullIsMinusOne θ ∧
      GuardsMatch θ rows ∧ EveryComparisonAssignsLevel θ rows ∧
      ¬ DistinctValues θ ∧
      absParamsC (EM.step sess θ rows) ≠
        castParams (step_comps_length sess θ rows hshape hflags)
          (step_absL sess θ rows hshape hflags)
          (EML.emStep sess.fixM sess.fixU sess.fixLambda (1 / 1000000) (rowPatterns θ rows)
            (rowWeights rows) (absParamsC θ)) :=
  ⟨Dup.sess, Dup.θ, Dup.rows, Dup.shape, Dup.flags, Dup.prior_pos, Dup.prior_lt, Dup.noTf,
    Dup.positive, Dup.nullMinusOne, Dup.guards, Dup.total, Dup.not_distinct, Dup.deviates⟩

/-- **A non-null level carrying −1.**  All other hypotheses of `loglik_mono_executable` in
place, one `EM.step` strictly lowers the log-likelihood: the SQL drops the level's rows with
the null rows (`comparison_vector_value != -1`) and the level receives the placeholder 1e-6. -/
theorem loglik_mono_executable_deviates_when_null_flag_mismatch :
    ∃ (sess : EM.Session) (θ : EM.Params ℝ) (rows : List (EM.Row ℝ)),
      0 < θ.prior ∧ θ.prior < 1 ∧ NoTf θ ∧ PositiveMU θ ∧ DistinctValues θ ∧
      SameShape θ ∧ LevelFlagsOff θ ∧ GuardsMatch θ rows ∧ EveryComparisonAssignsLevel θ rows ∧
      (∀ r ∈ rows, 0 < r.count) ∧ SubNormalisedM θ rows ∧ SubNormalisedU θ rows ∧
      ¬ NullIsMinusOne θ ∧
      execLogLik (EM.step sess θ rows) rows < execLogLik θ rows :=
  ⟨Nul.sess, Nul.θ, Nul.rows, Nul.prior_pos, Nul.prior_lt, Nul.noTf, Nul.positive, Nul.distinct,
    Nul.shape, Nul.flags, Nul.guards, Nul.total, Nul.counts, Nul.subM, Nul.subU,
    Nul.not_nullMinusOne, Nul.decrease⟩

/-- **Sub-normalisation (K8 on the executable model).**  All other hypotheses of
`loglik_mono_executable` in place, a start whose observed level has `m = u = 2` makes one
`EM.step` strictly lower the log-likelihood (`log 2` → `log 1`). -/
theorem loglik_mono_executable_deviates_when_not_subnormalised :
    ∃ (sess : EM.Session) (θ : EM.Params ℝ) (rows : List (EM.Row ℝ)),
      0 < θ.prior ∧ θ.prior < 1 ∧ NoTf θ ∧ PositiveMU θ ∧ DistinctValues θ ∧ NullIsMinusOne θ ∧
      SameShape θ ∧ LevelFlagsOff θ ∧ GuardsMatch θ rows ∧ EveryComparisonAssignsLevel θ rows ∧
      (∀ r ∈ rows, 0 < r.count) ∧
      ¬ SubNormalisedM θ rows ∧
      execLogLik (EM.step sess θ rows) rows < execLogLik θ rows :=
  ⟨Sub.sess, Sub.θ, Sub.rows, Sub.prior_pos, Sub.prior_lt, Sub.noTf, Sub.positive, Sub.distinct,
    Sub.nullMinusOne, Sub.shape, Sub.flags, Sub.guards, Sub.total, Sub.counts, Sub.not_subM,
    Sub.decrease⟩

/-- **The null level's slot.**  Under every hypothesis of `step_is_abstract_emstep_positions`
the position-indexed abstraction `absParams` of the stepped parameters still differs from
`EML.emStep … (absParams θ)` — in the slot of a null level, which `EM.step` leaves alone and
the abstract step overwrites with the placeholder.  The slot is never read (`absParamsC`
canonicalises it), so this deviation is harmless. -/
theorem step_is_abstract_emstep_deviates_when_null_slot_not_placeholder :
    ∃ (sess : EM.Session) (θ : EM.Params ℝ) (rows : List (EM.Row ℝ))
      (hshape : SameShape θ) (hflags : LevelFlagsOff θ),
      0 < θ.prior ∧ θ.prior < 1 ∧ NoTf θ ∧ PositiveMU θ ∧ DistinctValues θ ∧ NullIsMinusOne θ ∧
      GuardsMatch θ rows ∧ EveryComparisonAssignsLevel θ rows ∧
      ∃ (c : Fin (EM.step sess θ rows).comps.length) (i : Fin (absL (EM.step sess θ rows) c)),
        (absParams (EM.step sess θ rows)).m c i ≠
          (castParams (step_comps_length sess θ rows hshape hflags)
            (step_absL sess θ rows hshape hflags) (absStep sess θ rows)).m c i :=
  ⟨⟨false, false, false⟩, Ex.θ, Ex.rows, Ex.shape, Ex.flags, Ex.prior_pos, Ex.prior_lt, Ex.noTf,
    Ex.positive, Ex.distinct, Ex.nullMinusOne, Ex.guards, Ex.total,
    Ex.null_slot ⟨false, false, false⟩ rfl⟩

/-- **Shape of `states`.**  When `θ.states` does not have the shape of `θ.comps` the step does
not even keep the number of comparisons (`zipWith3Idx` truncates). -/
theorem step_deviates_when_states_shape_differs :
    ∃ (θ : EM.Params ℝ), LevelFlagsOff θ ∧ ¬ SameShape θ ∧
      ∀ (sess : EM.Session) (rows : List (EM.Row ℝ)),
        (EM.step sess θ rows).comps.length ≠ θ.comps.length :=
  ⟨Shp.θ, by unfold LevelFlagsOff; decide +kernel, Shp.not_shape, Shp.drops⟩

end SplinkVerif.C03MB
