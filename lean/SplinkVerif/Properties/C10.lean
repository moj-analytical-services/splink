import SplinkVerif.Lemmas.Entry
/-!
# C10 — all inference entry points agree on a pair's score

Property theorems about `Model/Entry.lean`: the five entry points
(`predict`, `compare_two_records`, `realtime.compare_records`,
`find_matches_to_new_records`, `_score_missing_cluster_edges`) all end in the one
scoring function `Score.score` of C02; they differ in where the term-frequency
columns of the pair come from and in which pairs they score.  The theorems hold
for every number type (`Num α`) unless stated over `ℝ`, every model, every
record, every TF table, every rule list of any length and kind.
-/
namespace SplinkVerif.C10
open SplinkVerif SplinkVerif.Score SplinkVerif.Blocking SplinkVerif.Entry

/-- The record carries no `tf_*` field of its own: `∀ c, r.supplied c = none`. -/
abbrev Plain := @Lemmas.Entry.Plain
/-- Every non-NULL TF-column value of the record occurs in the linker's input data:
`∀ c v, r.val c = some v → L.inData c v = true`. -/
abbrev Seen := @Lemmas.Entry.Seen
/-- A TF source is cached for every column: `∀ c, L.tableCached c = true ∨ L.concatCached = true`
(`compute_tf_table` / `register_term_frequency_lookup` / any earlier `predict`). -/
abbrev HasSource := @Lemmas.Entry.HasSource
abbrev holds := @Lemmas.Blk.holds
abbrev SaltOK := @Lemmas.Blk.SaltOK
abbrev SelfJoin := @Lemmas.Blk.SelfJoin

/-! ## Term-frequency lookup paths -/

/-- For a value that occurs in the data, the ad-hoc lookup of `compare_two_records`
(`honour = true`) and of `find_matches_to_new_records` (`honour = false`) — whichever of the
cached TF table / cached concat table it goes through — returns the value `predict` joins
onto the record. -/
theorem tf_lookup_agrees {α : Type} (honour : Bool) (L : Linker α) (r : Rec α) (c : Nat)
    (hs : r.supplied c = none) (hsrc : L.tableCached c = true ∨ L.concatCached = true)
    (hin : ∀ v, r.val c = some v → L.inData c v = true) :
    newRecordTf honour L r c = joinedTf L r c := by
  rw [Lemmas.Entry.newRecordTf_eq_bind honour L r c hs, joinedTf]
  cases hv : r.val c with
  | none => rfl
  | some v => exact Lemmas.Entry.tfSource_of_inData L c v hsrc (hin v hv)

/-- A `tf_<col>` field supplied in the record wins in `compare_two_records` (even NULL),
and that is the value `realtime.compare_records` uses. -/
theorem tf_lookup_supplied_wins {α : Type} (L : Linker α) (r : Rec α) (c : Nat) (x : Option α)
    (hs : r.supplied c = some x) : newRecordTf true L r c = x ∧ ownTf r c = x := by
  simp only [newRecordTf, ownTf, hs, if_true, Option.join_some, and_self]

/-- An unseen value (no row in the TF table) gets NULL by every path (⇒ factor 1, C02
`tf_adjustment_is_one` / `tf_adjustment_one_missing`). -/
theorem tf_lookup_unseen_is_null {α : Type} (honour : Bool) (L : Linker α) (r : Rec α) (c v : Nat)
    (hs : r.supplied c = none) (hv : r.val c = some v) (hno : L.tf c v = none) :
    newRecordTf honour L r c = none ∧ joinedTf L r c = none := by
  rw [Lemmas.Entry.newRecordTf_eq_bind honour L r c hs, joinedTf, hv]
  exact ⟨Lemmas.Entry.tfSource_of_tf_none L c v hno, hno⟩

/-- Nothing cached (no `predict`, no TF table): NULL with a warning. -/
theorem tf_lookup_no_source_is_null {α : Type} (honour : Bool) (L : Linker α) (r : Rec α) (c : Nat)
    (hs : r.supplied c = none) (ht : L.tableCached c = false) (hc : L.concatCached = false) :
    newRecordTf honour L r c = none := by
  rw [Lemmas.Entry.newRecordTf_eq_bind honour L r c hs, Lemmas.Entry.tfSource_of_not_cached L c ht hc]
  cases r.val c <;> rfl

/-! ## Agreement of the scores -/

/-- On plain records whose values occur in the data, the ad-hoc lookup is the TF column `predict`
joins on. -/
theorem newRecordTf_eq_joinedTf {α : Type} (honour : Bool) (L : Linker α) (r : Rec α)
    (hsrc : HasSource L) (hp : Plain r) (hs : Seen L r) : newRecordTf honour L r = joinedTf L r :=
  funext fun c => tf_lookup_agrees honour L r c (hp c) (hsrc c) (hs c)

/-- `compare_two_records` and the scoring inside `find_matches_to_new_records` return the whole
scored row of `predict` (gammas, every `bf_*`/`bf_tf_adj_*` term, Bayes factor, match weight,
match probability) for two plain records whose values occur in the data, whenever some TF source
is cached. -/
theorem entrypoints_agree {α : Type} [Num α] (L : Linker α) (W : World α) (l r : Nat)
    (hsrc : HasSource L) (hl : Plain (W.recs l)) (hr : Plain (W.recs r))
    (sl : Seen L (W.recs l)) (sr : Seen L (W.recs r)) :
    compareTwoRecords L W l r = predictPair L W l r ∧ fmScore L W l r = predictPair L W l r := by
  rw [compareTwoRecords, fmScore, predictPair,
    newRecordTf_eq_joinedTf true L _ hsrc hl sl, newRecordTf_eq_joinedTf true L _ hsrc hr sr,
    newRecordTf_eq_joinedTf false L _ hsrc hr sr]
  exact ⟨rfl, rfl⟩

/-- …and so do the gamma and weight columns (the property's wording). -/
theorem entrypoints_agree_columns {α : Type} [Num α] (L : Linker α) (W : World α) (l r : Nat)
    (hsrc : HasSource L) (hl : Plain (W.recs l)) (hr : Plain (W.recs r))
    (sl : Seen L (W.recs l)) (sr : Seen L (W.recs r)) :
    (compareTwoRecords L W l r).gammas = (predictPair L W l r).gammas ∧
    (compareTwoRecords L W l r).weight = (predictPair L W l r).weight ∧
    (fmScore L W l r).gammas = (predictPair L W l r).gammas ∧
    (fmScore L W l r).weight = (predictPair L W l r).weight := by
  have h := entrypoints_agree L W l r hsrc hl hr sl sr
  rw [h.1, h.2]
  exact ⟨rfl, rfl, rfl, rfl⟩

/-- `realtime.compare_records` on copies `l'`, `r'` of two records (same outcomes of the level
conditions) that carry, as their own `tf_*` fields, the values `predict` joins onto `l` and `r`,
returns the scored row of `predict`. -/
theorem realtime_agrees {α : Type} [Num α] (L : Linker α) (W : World α) (l r l' r' : Nat)
    (hg : W.guards l' r' = W.guards l r)
    (hl : ∀ c, (W.recs l').supplied c = some (joinedTf L (W.recs l) c))
    (hr : ∀ c, (W.recs r').supplied c = some (joinedTf L (W.recs r) c)) :
    realtimeCompare L W l' r' = predictPair L W l r := by
  have e : ∀ a a', (∀ c, (W.recs a').supplied c = some (joinedTf L (W.recs a) c)) →
      ownTf (W.recs a') = joinedTf L (W.recs a) := fun a a' h =>
    funext fun c => by
      rw [ownTf, h c]
      rfl
  rw [realtimeCompare, predictPair, scoreWith, scoreWith, e l l' hl, e r r' hr, hg]

/-- With every TF field supplied in both records `compare_two_records` (whatever the linker
has cached) is `realtime.compare_records`. -/
theorem compare_two_records_supplied_eq_realtime {α : Type} [Num α] (L : Linker α) (W : World α)
    (l r : Nat) (hl : ∀ c, ((W.recs l).supplied c).isSome = true)
    (hr : ∀ c, ((W.recs r).supplied c).isSome = true) :
    compareTwoRecords L W l r = realtimeCompare L W l r := by
  have e : ∀ q : Rec α, (∀ c, (q.supplied c).isSome = true) → newRecordTf true L q = ownTf q :=
    fun q hq => funext fun c => by
      obtain ⟨x, hx⟩ := Option.isSome_iff_exists.mp (hq c)
      rw [(tf_lookup_supplied_wins L q c x hx).1, (tf_lookup_supplied_wins L q c x hx).2]
  rw [compareTwoRecords, realtimeCompare, e _ hl, e _ hr]

/-- Every row of `_score_missing_cluster_edges` carries the scored row of `predict` for its pair. -/
theorem missing_edges_scores_are_predict {α : Type} [Num α] (L : Linker α) (W : World α)
    (lt : LinkType) (t : Table) (cluster : Nat → Nat) (supplied : List (Nat × Nat))
    (row : Row) (s : Scored α) (h : (row, s) ∈ missingEdges L W lt t cluster supplied) :
    s = predictPair L W row.2.1 row.2.2 :=
  ((Lemmas.Lists.mem_map_graph _ _ row s).mp h).2

/-! ## `find_matches_to_new_records` returns exactly the admitted records above the threshold -/

/-- A row `(match_key i, existing e, new n)` is returned iff `e` is an existing and `n` a new
record, rule `i` is the first rule that is TRUE on `(e, n)` (FALSE and NULL do not admit), and the
score passes the strict filter; the row carries that score. -/
theorem find_matches_exact {α : Type} [Num α] (L : Linker α) (W : World α) (nE nN : Nat)
    (part : Nat → Nat → Nat) (rules : List Rule) (thr : α) (hne : rules ≠ [])
    (hsalt : SaltOK (fmTable nE nN part) rules) (i e n : Nat) (s : Scored α) :
    ((i, e, n), s) ∈ findMatches L W nE nN part rules thr ↔
      e < nE ∧ nE ≤ n ∧ n < nE + nN ∧
      holds rules i e n ∧ (∀ j, j < i → ¬ holds rules j e n) ∧
      s = fmScore L W e n ∧ keepStrict thr (fmScore L W e n) = true := by
  rw [Lemmas.Entry.mem_findMatches_block,
    Lemmas.Blk.mem_block_two_dataset _ rules hne hsalt (Lemmas.Entry.fmTable_two nE nN part),
    Lemmas.Entry.fmTable_sd_lt]
  constructor
  · rintro ⟨⟨⟨-, hn2, ⟨he, hn⟩, hh, hp⟩, rfl⟩, hk⟩
    exact ⟨he, hn, hn2, hh, hp, rfl, hk⟩
  · rintro ⟨he, hn, hn2, hh, hp, rfl, hk⟩
    exact ⟨⟨⟨Nat.lt_of_lt_of_le he (Nat.le_add_right nE nN), hn2, ⟨he, hn⟩, hh, hp⟩, rfl⟩, hk⟩

/-- No `(existing, new)` pair is returned twice (by one rule or by two). -/
theorem find_matches_each_once {α : Type} [Num α] (L : Linker α) (W : World α) (nE nN : Nat)
    (part : Nat → Nat → Nat) (rules : List Rule) (thr : α) :
    ((findMatches L W nE nN part rules thr).map fun x => (x.1.2.1, x.1.2.2)).Nodup := by
  refine List.Nodup.sublist (List.filter_sublist.map _) ?_
  rw [List.map_map]
  exact Lemmas.Blk.nodup_block_pairs .twoDatasetLinkOnly (fmTable nE nN part) rules

/-- Over the reals the filter is `threshold < match_weight`: infinite weights pass, NULL does not. -/
theorem find_matches_threshold_real (thr : ℝ) (s : Scored ℝ) :
    keepStrict thr s = true ↔
      (∃ w, s.weight = some (.fin w) ∧ thr < w) ∨ s.weight = some .inf := by
  unfold keepStrict
  -- one case per branch of `keepStrict`; only a finite weight is compared, and `Num.gt` over ℝ is `>`
  cases hw : s.weight with
  | none => simp
  | some f =>
    cases f with
    | fin w => simp [Lemmas.Score.num_gt]
    | inf => simp

/-- The threshold is strict: a pair whose weight equals the threshold is NOT returned
(unlike `predict(threshold_match_weight=…)`, which keeps `≥` — C02 `threshold_weight_exact`). -/
theorem find_matches_threshold_strict (L : Linker ℝ) (W : World ℝ) (nE nN : Nat)
    (part : Nat → Nat → Nat) (rules : List Rule) (thr : ℝ) (i e n : Nat) (s : Scored ℝ)
    (hw : (fmScore L W e n).weight = some (.fin thr)) :
    ((i, e, n), s) ∉ findMatches L W nE nN part rules thr := by
  intro h
  obtain ⟨⟨-, rfl⟩, hk⟩ := (Lemmas.Entry.mem_findMatches_block L W nE nN part rules thr _ s).mp h
  rw [keepStrict, hw] at hk
  exact lt_irrefl thr (of_decide_eq_true hk)

/-! ## `_score_missing_cluster_edges` returns exactly the within-cluster pairs not supplied -/

/-- A pair is returned iff it is admissible under the link type, lies within one cluster, and the
supplied predictions contain it in NEITHER orientation: exactly the within-cluster unordered pairs
absent from the supplied predictions. -/
theorem missing_edges_exact (lt : LinkType) (t : Table) (cluster : Nat → Nat)
    (supplied : List (Nat × Nat)) (hlt : SelfJoin lt) (i l r : Nat) :
    (i, l, r) ∈ missingPairs lt t cluster supplied ↔
      i = 0 ∧ l < t.m ∧ r < t.m ∧ whereCond lt t l r = true ∧ cluster l = cluster r ∧
      (t.key l, t.key r) ∉ supplied ∧ (t.key r, t.key l) ∉ supplied := by
  rw [missingPairs, List.mem_filter,
    Lemmas.Blk.mem_block lt t _ hlt (List.cons_ne_nil _ _) (Lemmas.Entry.saltOK_clusterRule t cluster),
    Lemmas.Entry.holds_clusterRule]
  simp only [Bool.and_eq_true, Bool.not_eq_true', List.contains_eq_mem, decide_eq_false_iff_not]
  constructor
  · rintro ⟨⟨hl, hr, hw, ⟨hi, hc⟩, -⟩, hs⟩
    exact ⟨hi, hl, hr, hw, hc, hs⟩
  · rintro ⟨hi, hl, hr, hw, hc, hs⟩
    exact ⟨⟨hl, hr, hw, ⟨hi, hc⟩, fun j hj => absurd (hi ▸ hj) (Nat.not_lt_zero j)⟩, hs⟩

/-- The orientation in which a supplied pair is written is irrelevant: reversing any supplied rows
does not change the result. -/
theorem missing_edges_unordered (lt : LinkType) (t : Table) (cluster : Nat → Nat)
    (supplied supplied' : List (Nat × Nat)) (hlt : SelfJoin lt)
    (hsame : ∀ a b, ((a, b) ∈ supplied ∨ (b, a) ∈ supplied) ↔ ((a, b) ∈ supplied' ∨ (b, a) ∈ supplied'))
    (i l r : Nat) :
    (i, l, r) ∈ missingPairs lt t cluster supplied ↔ (i, l, r) ∈ missingPairs lt t cluster supplied' := by
  have h : ((t.key l, t.key r) ∉ supplied ∧ (t.key r, t.key l) ∉ supplied) ↔
      ((t.key l, t.key r) ∉ supplied' ∧ (t.key r, t.key l) ∉ supplied') :=
    not_or.symm.trans ((not_congr (hsame _ _)).trans not_or)
  rw [missing_edges_exact lt t cluster supplied hlt, missing_edges_exact lt t cluster supplied' hlt, h]

/-- No pair is returned twice — also when the supplied predictions contain duplicates. -/
theorem missing_edges_each_once (lt : LinkType) (t : Table) (cluster : Nat → Nat)
    (supplied : List (Nat × Nat)) :
    ((missingPairs lt t cluster supplied).map fun row => (row.2.1, row.2.2)).Nodup :=
  List.Nodup.sublist (List.filter_sublist.map _) (Lemmas.Blk.nodup_block_pairs lt t _)

/-- Toy exact number type for the evaluated examples (`log2 := id`: weight = Bayes factor). -/
local instance toyNum : Num Int where
  zero := 0
  one := 1
  ofNat := fun n => (n : Int)
  add := (· + ·)
  sub := (· - ·)
  mul := (· * ·)
  div := (· / ·)
  pow := fun a b => a ^ b.toNat
  log2 := id
  ge := fun a b => decide (a ≥ b)
  gt := fun a b => decide (a > b)
  isZero := fun a => decide (a = 0)

/-- Two existing records (0, 1) and two new ones (2, 3); one exact-match comparison with
`m/u = 4` against `1`; prior odds `2 / (1 - 2) = -2`; values: rec 0 = rec 2, others differ.
Rules `[r0 : l = 0, r1 : TRUE]`.  Weights: (0,2) ↦ −8, all others ↦ −2.  With threshold −8 the
pair (0,2) — whose weight equals the threshold — is dropped, the other three are kept, each
attributed to its first TRUE rule. -/
example :
    (findMatches (α := Int)
      { prior := 2,
        comparisons := [[{ isNull := false, isElse := false, cvv := 1, m := 4, u := 1, tf := none },
                         { isNull := false, isElse := true, cvv := 0, m := 1, u := 1, tf := none }]],
        tf := fun _ _ => none, inData := fun _ _ => false, tableCached := fun _ => false,
        concatCached := true }
      { recs := fun _ => { val := fun _ => none, supplied := fun _ => none },
        guards := fun l r => [[some (l == 0 && r == 2), some true]] }
      2 2 (fun _ _ => 0)
      [ { kind := .plain, eval := fun l _ => some (l == 0) }, { kind := .plain, eval := fun _ _ => some true } ]
      (-8)).map (·.1)
    = [(0, 0, 3), (1, 1, 2), (1, 1, 3)] := by decide +kernel

/-- Four clustered records, keys 0<1<2<3, clusters {0,1,2} and {3}; the prediction (0,1) is
supplied twice and (1,2) is supplied *reversed* as (2,1): (0,1) is excluded once, (0,2) is
missing, and the reversed row excludes (1,2) too — the anti-join is on the unordered pair
(`missing_edges_unordered`). -/
example :
    missingPairs .dedupeOnly { m := 4, key := id, sd := fun _ => 0, part := fun _ _ => 0 }
      (fun i => if i < 3 then 0 else 1) [(0, 1), (0, 1), (2, 1)]
    = [(0, 0, 2)] := by decide +kernel

end SplinkVerif.C10
