import SplinkVerif.Lemmas.BlockSql
/-!
# C01 at the level of the emitted SQL

`Generated/BlockSql.lean` holds the per-rule `SELECT` statements of `__splink__blocked_id_pairs` as
`blocking.py: block_using_rules_sqls` emits them (T-sql translator, captured from real runs with marker rules and
regenerated on every run; the rule and the preceding rules are parameters); `Model/BlockSql.lean` is the Python control
flow around them (the loop over the rule list, `match_key`, the wiring of preceding rules, `" OR ".join`, `UNION ALL`,
the rule `1=1` for an empty list).  The theorems below are about that pipeline under the SQL semantics `Rel.eval`, for

* every link type the code blocks with (`dedupe_only`, `link_only`, `link_and_dedupe`, `two_dataset_link_only`),
* every rule list of any length, each rule ANY expression over the joined row,
* every contents of the input tables: any number of rows, any values including NULL in every column.

Hypotheses (all decidable on a concrete database, all satisfied by the harness's inputs):
`hw`/`hL` — the left table's rows have the declared number `w` of columns, identity columns first;
`hB` (`RulesB3`) — every rule evaluates to TRUE, FALSE or NULL on every pair of rows (what the engines' type check
guarantees; a rule of another type is rejected by the engine);
`hLid`/`hRid` — identities are unique within each joined table (the property's assumption; for composite identities
this says that `source_dataset || '-__-' || unique_id` separates the records).

`Lemmas.BlockSql.block_eq_spec` turns the pipeline into the list `specFrom` of the two input tables; each theorem below is
that step followed by the corresponding fact about `specFrom` from `Lemmas/BlockSql.lean`.
-/
namespace SplinkVerif.C01Sql
open SplinkVerif SplinkVerif.Rel SplinkVerif.BlockSql

/-- `∀ p ∈ rules, ∀ ra ∈ L, ∀ rb ∈ R, isB3 (p.eval (ra ++ rb))` (defined in `Lemmas/BlockSql.lean`). -/
abbrev RulesB3 := @Lemmas.BlockSql.RulesB3

/-- Rule `i` is TRUE on the joined row and no earlier rule is TRUE on it (FALSE and NULL both count as not TRUE):
`(∃ e, rules[i]? = some e ∧ e.holds row) ∧ ∀ j < i, ∀ q, rules[j]? = some q → q.holds row = false`. -/
abbrev FirstAt := @Lemmas.BlockSql.FirstAt

/-- The hypothesis `RulesB3` holds on EVERY database for rules that are comparisons, `IS NULL`, boolean / NULL literals, or
`AND` / `OR` / `NOT` / `coalesce` of such (`isPred`, a decidable syntactic check; every rule of the harness's grammar passes it). -/
theorem rulesB3_of_syntactic (rules : List Expr) (h : ∀ p ∈ rules, Lemmas.BlockSql.isPred p = true) (L R : List Row) :
    RulesB3 rules L R :=
  fun p hp _ _ _ _ => Lemmas.BlockSql.isB3_of_isPred p (h p hp) _

/-- **(1) Exactness and first-rule attribution.**  A row `(k, a, b)` is in the SQL result iff `a`, `b` are the identities
of a left and a right record whose ordered pair is admissible under the link type, on which rule `k` evaluates to TRUE
and no earlier rule does — `match_key` is the FIRST satisfied rule. -/
theorem sql_block_exact (lt : LinkType) (w : Nat) (db : Db) (rules : List Expr)
    (hw : idWidth lt ≤ w) (hL : ∀ ra ∈ db (tables lt).1, ra.length = w)
    (hB : RulesB3 rules (db (tables lt).1) (db (tables lt).2)) (hne : rules ≠ []) (k : Nat) (a b : Val) :
    [mkVal k, a, b] ∈ block lt w db rules ↔
      ∃ ra ∈ db (tables lt).1, ∃ rb ∈ db (tables lt).2, rowId lt ra = a ∧ rowId lt rb = b ∧
        admissible lt ra rb = true ∧ FirstAt rules k (ra ++ rb) := by
  rw [Lemmas.BlockSql.block_eq_spec lt w db rules hw hL hB, Lemmas.BlockSql.rulesOrDefault_of_ne hne]
  exact Lemmas.BlockSql.mem_specFrom_key ..

/-- …and the result contains nothing else: every row is `(match_key k, id_l, id_r)` of such a pair. -/
theorem sql_block_rows (lt : LinkType) (w : Nat) (db : Db) (rules : List Expr)
    (hw : idWidth lt ≤ w) (hL : ∀ ra ∈ db (tables lt).1, ra.length = w)
    (hB : RulesB3 rules (db (tables lt).1) (db (tables lt).2)) (row : Row) :
    row ∈ block lt w db rules ↔
      ∃ k, ∃ ra ∈ db (tables lt).1, ∃ rb ∈ db (tables lt).2, row = [mkVal k, rowId lt ra, rowId lt rb] ∧
        admissible lt ra rb = true ∧ FirstAt (rulesOrDefault rules) k (ra ++ rb) := by
  rw [Lemmas.BlockSql.block_eq_spec lt w db rules hw hL hB]
  exact Lemmas.BlockSql.mem_specFrom_nil ..

/-- `match_key` literals of different rules differ. -/
theorem mkVal_injective {i j : Nat} (h : mkVal i = mkVal j) : i = j := Lemmas.BlockSql.mkVal_inj h

/-- **(2) Each pair once.**  No identity pair `(join_key_l, join_key_r)` occurs in two rows of the result — neither twice
from one rule nor from two different rules. -/
theorem sql_block_pairs_nodup (lt : LinkType) (w : Nat) (db : Db) (rules : List Expr)
    (hw : idWidth lt ≤ w) (hL : ∀ ra ∈ db (tables lt).1, ra.length = w)
    (hB : RulesB3 rules (db (tables lt).1) (db (tables lt).2))
    (hLid : ((db (tables lt).1).map (rowId lt)).Nodup) (hRid : ((db (tables lt).2).map (rowId lt)).Nodup) :
    ((block lt w db rules).map fun row => row.drop 1).Nodup := by
  rw [Lemmas.BlockSql.block_eq_spec lt w db rules hw hL hB]
  exact Lemmas.BlockSql.nodup_idPairs_specFrom lt _ _ hLid hRid _ _

/-- …so every row of the result has multiplicity exactly 1. -/
theorem sql_block_count_one (lt : LinkType) (w : Nat) (db : Db) (rules : List Expr)
    (hw : idWidth lt ≤ w) (hL : ∀ ra ∈ db (tables lt).1, ra.length = w)
    (hB : RulesB3 rules (db (tables lt).1) (db (tables lt).2))
    (hLid : ((db (tables lt).1).map (rowId lt)).Nodup) (hRid : ((db (tables lt).2).map (rowId lt)).Nodup)
    (row : Row) (h : row ∈ block lt w db rules) : (block lt w db rules).count row = 1 :=
  List.count_eq_one_of_mem (List.Nodup.of_map _ (sql_block_pairs_nodup lt w db rules hw hL hB hLid hRid)) h

/-- …and, for the link types that join the table with itself, a pair is emitted in ONE orientation only and no record is
paired with itself (whatever the match keys `x`, `y`). -/
theorem sql_block_one_orientation (lt : LinkType) (hlt : lt ≠ .twoDatasetLinkOnly) (w : Nat) (db : Db)
    (rules : List Expr) (hw : idWidth lt ≤ w) (hL : ∀ ra ∈ db (tables lt).1, ra.length = w)
    (hB : RulesB3 rules (db (tables lt).1) (db (tables lt).2)) (x y a b : Val)
    (h : [x, a, b] ∈ block lt w db rules) : [y, b, a] ∉ block lt w db rules ∧ a ≠ b := by
  rw [Lemmas.BlockSql.block_eq_spec lt w db rules hw hL hB] at h ⊢
  exact Lemmas.BlockSql.specFrom_one_orientation hlt h

/-- **(3) No rules.**  With an empty rule list every admissible pair is produced, with key 0 (once, by (2)). -/
theorem sql_block_no_rules (lt : LinkType) (w : Nat) (db : Db)
    (hw : idWidth lt ≤ w) (hL : ∀ ra ∈ db (tables lt).1, ra.length = w) (k : Nat) (a b : Val) :
    [mkVal k, a, b] ∈ block lt w db [] ↔
      k = 0 ∧ ∃ ra ∈ db (tables lt).1, ∃ rb ∈ db (tables lt).2, rowId lt ra = a ∧ rowId lt rb = b ∧
        admissible lt ra rb = true := by
  rw [Lemmas.BlockSql.block_eq_spec lt w db [] hw hL (fun _ hp => nomatch hp), Lemmas.BlockSql.mem_specFrom_key]
  simp only [Lemmas.BlockSql.firstAt_default_nil]
  constructor
  · rintro ⟨ra, hra, rb, hrb, h1, h2, h3, h4⟩
    exact ⟨h4, ra, hra, rb, hrb, h1, h2, h3⟩
  · rintro ⟨h4, ra, hra, rb, hrb, h1, h2, h3⟩
    exact ⟨ra, hra, rb, hrb, h1, h2, h3, h4⟩

/-- The model's table corresponds to the SQL table: `t.m` = number of rows; `t.key l < t.key r` iff the engine orders the
identities of rows `l`, `r` that way; for `link_only`, `t.sd l ≠ t.sd r` iff the source dataset values differ (ranks of the
identities / of the source dataset values satisfy this). -/
abbrev Corr := @Lemmas.BlockSql.Corr

/-- A rule expression as an outcome function on record indices of `T`:
`{ kind := .plain, eval := fun l r => toB3 (e.eval (T[l] ++ T[r])) }`. -/
abbrev toRule := @Lemmas.BlockSql.toRule

/-- The SQL row of a model row: `[mkVal k, rowId lt T[l], rowId lt T[r]]`. -/
abbrev emit := @Lemmas.BlockSql.emit

/-- **(4) Refinement.**  For the link types that join `__splink__df_concat_with_tf` with itself, the regenerated SQL returns
exactly the rows of the functional model `Blocking.block` — the object of all theorems of `Properties/C01.lean` — in the
same order, for every table, every rule list and every model table that corresponds to the SQL table. -/
theorem sql_block_eq_model (lt : LinkType) (hlt : lt ≠ .twoDatasetLinkOnly) (w : Nat) (db : Db) (rules : List Expr)
    (hw : idWidth lt ≤ w) (hL : ∀ ra ∈ db (tables lt).1, ra.length = w)
    (hB : RulesB3 rules (db (tables lt).1) (db (tables lt).2))
    (t : Blocking.Table) (hc : Corr lt (db (tables lt).1) t) :
    block lt w db rules
      = (Blocking.block lt t (rules.map (toRule (db (tables lt).1)))).map (emit lt (db (tables lt).1)) := by
  rw [Lemmas.BlockSql.block_eq_spec lt w db rules hw hL hB, Lemmas.BlockSql.tables_selfJoin hlt,
    Lemmas.BlockSql.specFrom_eq_model lt hlt _ t hc _ [] [] List.Forall₂.nil]
  cases rules with
  | nil => exact congrArg (fun q => (Blocking.blockFrom lt t [] [q]).map _) (Lemmas.BlockSql.toRule_noRules _)
  | cons r rest => rfl

/-! ## Non-vacuity -/

/-- `dedupe_only`, three records (unique_id, a, b) with NULLs; rules `l.a = r.a`, `l.b = r.b`: the pair (2,3) is NULL
under rule 0 and TRUE under rule 1. -/
def exT : List Row := [[.int 1, .str "x", .null], [.int 2, .str "x", .str "p"], [.int 3, .null, .str "p"]]
def exRules : List Expr := [Expr.cmp .eq (Expr.col 1) (Expr.col 4), Expr.cmp .eq (Expr.col 2) (Expr.col 5)]

example : block .dedupeOnly 3 (inputDb .dedupeOnly exT exT) exRules
    = [[.str "0", .int 1, .int 2], [.str "1", .int 2, .int 3]] := by decide +kernel

example : block .dedupeOnly 3 (inputDb .dedupeOnly exT exT) []
    = [[.str "0", .int 1, .int 2], [.str "0", .int 1, .int 3], [.str "0", .int 2, .int 3]] := by decide +kernel

/-- the hypotheses hold on it -/
example : idWidth .dedupeOnly ≤ 3 ∧ (∀ ra ∈ exT, ra.length = 3) ∧ (exT.map (rowId .dedupeOnly)).Nodup ∧
    (∀ p ∈ exRules, ∀ ra ∈ exT, ∀ rb ∈ exT, isB3 (p.eval (ra ++ rb)) = true) := by decide +kernel

example : ∀ p ∈ exRules, Lemmas.BlockSql.isPred p = true := by decide

/-- and the model table `key = index` corresponds to it -/
example : Corr .dedupeOnly exT { m := 3, key := id, sd := fun _ => 0, part := fun _ _ => 0 } :=
  ⟨rfl, by decide +kernel, by intro h; cases h⟩

/-- `link_only`, composite identities (source_dataset, unique_id, a) with overlapping unique ids; rule `l.a = r.a`. -/
def exT2 : List Row :=
  [[.str "a", .int 1, .str "x"], [.str "b", .int 1, .str "x"], [.str "b", .int 2, .null], [.str "a", .int 10, .str "x"]]

example : block .linkOnly 3 (inputDb .linkOnly exT2 exT2) [Expr.cmp .eq (Expr.col 2) (Expr.col 5)]
    = [[.str "0", .str "a-__-1", .str "b-__-1"], [.str "0", .str "a-__-10", .str "b-__-1"]] := by decide +kernel

/-- `two_dataset_link_only`: left and right table, every cross pair on which the rule is TRUE. -/
example : block .twoDatasetLinkOnly 3 (inputDb .twoDatasetLinkOnly [[.str "a", .int 1, .str "x"]]
      [[.str "b", .int 1, .str "x"], [.str "b", .int 2, .null]]) [Expr.cmp .eq (Expr.col 2) (Expr.col 5)]
    = [[.str "0", .str "a-__-1", .str "b-__-1"]] := by decide +kernel

end SplinkVerif.C01Sql
