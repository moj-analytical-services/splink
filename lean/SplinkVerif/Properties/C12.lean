import SplinkVerif.Lemmas.OneToOneConn
/-!
# C12 — single-best-link clusters respect duplicate-free datasets

All statements are about `Model/OneToOne.lean`, the statement-by-statement model of `one_to_one_clustering`,
for **every** instance (any number of records, datasets, edges incl. duplicate / reversed /
self-loop / dangling rows, any threshold) and **every pair of tie-break oracles** for the two
`row_number()` windows — the SQL leaves the order of tied rows open, so what an engine does
with ties is one of the oracle pairs.

The parts of the property:
* partition, constraint, termination hold for all inputs and all oracles (`partition`, `dupfree_respected`,
  `terminates`);
* maximality holds for tie-free inputs (`maximal_when_tie_free`; the oracles are then irrelevant);
* connectivity is **false with ties** (`connected_counter_ties`, a defect of the real code, finding K4) and holds for
  tie-free inputs (`connected_tie_free`), where the returned partition is the constrained Kruskal partition
  (`partition_is_kruskal_when_tie_free`).
-/
namespace SplinkVerif.C12
open SplinkVerif SplinkVerif.OneToOne

/-- Every input record is returned exactly once: the `node_id` column of the output is
`0, 1, …, n-1`. -/
theorem partition (I : Inst) (oL oR : Oracle) :
    (cluster I oL oR).map (·.1) = List.range I.n := by
  unfold cluster output
  rw [List.map_map]
  exact List.map_id _

/-- The constraint is an invariant of the loop body for ALL tie-break oracles: a pass maps a
table in which no representative group holds two records of one duplicate-free dataset to
such a table (at most one row enters a group per pass because `rank_r = 1` is unique per
partition, and the entering record's own group passed the `contains_` flag test). -/
theorem dupfree_step (I : Inst) (oL oR : Oracle) (k : Nat) (rep : Reps)
    (h : DupFreeOK I rep) : DupFreeOK I (step I oL oR k rep) := by
  open Lemmas.O2O in
  intro u v hu hv huv hrep hds hmem
  rw [repOf_step I oL oR k rep u hu, repOf_step I oL oR k rep v hv] at hrep
  -- a node that took the label of an accepted row's neighbour: its old group holds `ds node`
  have key : ∀ (a b : Nat), a < I.n → b < I.n → I.ds a = I.ds b → I.ds a ∈ I.dupFree →
      ∀ x ∈ accepted I oL oR k rep, node x = a → repOf rep (nbr x) = repOf rep b → False := by
    intro a b ha hb hab hma x hx hxn hxe
    obtain ⟨_, _, _, hconf⟩ := (isCand_iff I rep x).mp (isCand_of_accepted hx)
    rw [hxn, hxe, conflict_of_mem I rep ha hb hab hma] at hconf
    cases hconf
  rcases newRep_cases rep (accepted I oL oR k rep) u with hu0 | ⟨x, hx, hxn, hxe⟩
  · rcases newRep_cases rep (accepted I oL oR k rep) v with hv0 | ⟨y, hy, hyn, hye⟩
    · rw [hu0, hv0] at hrep
      exact h u v hu hv huv hrep hds hmem
    · rw [hu0, hye] at hrep
      exact key v u hv hu hds.symm (hds ▸ hmem) y hy hyn hrep.symm
  · rcases newRep_cases rep (accepted I oL oR k rep) v with hv0 | ⟨y, hy, hyn, hye⟩
    · rw [hxe, hv0] at hrep
      exact key u v hu hv hds hmem x hx hxn hrep
    · rw [hxe, hye] at hrep
      obtain ⟨hcx, _, hrx⟩ := (mem_accepted I oL oR k rep x).mp hx
      obtain ⟨hcy, _, hry⟩ := (mem_accepted I oL oR k rep y).mp hy
      have := rank1_unique rep nbr (oR k) (cands I rep) x y hcx hcy hrep hrx hry
      subst this
      exact huv (hxn.symm.trans hyn)

/-- For ALL tie-break oracles the returned clusters hold at most one record of every
duplicate-free dataset. -/
theorem dupfree_respected (I : Inst) (oL oR : Oracle) : DupFreeOK I (run I oL oR).rep :=
  Lemmas.O2O.loop_inv I oL oR (DupFreeOK I) (dupfree_step I oL oR) _ _ _ (Lemmas.O2O.dupFree_initial I)

/-- The loop leaves through `needs_updating_count = 0`, never because the model's fuel ran
out (representatives only decrease, so their sum bounds the number of passes), and the
returned table is a fixpoint of the last pass. -/
theorem terminates (I : Inst) (oL oR : Oracle) :
    (run I oL oR).done = true ∧
      step I oL oR (run I oL oR).last (run I oL oR).rep = (run I oL oR).rep :=
  ⟨Lemmas.O2O.run_done I oL oR, Lemmas.O2O.run_fix I oL oR⟩

/-- Maximality for pairwise distinct probabilities: every kept edge between two different
returned clusters joins clusters that both contain a record of one duplicate-free dataset. -/
theorem maximal_when_tie_free (I : Inst) (oL oR : Oracle) (htf : TieFree I) (e : Row)
    (he : e ∈ kept I) (h1 : e.1 < I.n) (h2 : e.2.1 < I.n)
    (hne : repOf (run I oL oR).rep e.1 ≠ repOf (run I oL oR).rep e.2.1) :
    ∃ d ∈ I.dupFree,
      (∃ u, u < I.n ∧ repOf (run I oL oR).rep u = repOf (run I oL oR).rep e.1 ∧ I.ds u = d) ∧
      (∃ v, v < I.n ∧ repOf (run I oL oR).rep v = repOf (run I oL oR).rep e.2.1 ∧ I.ds v = d) :=
  Lemmas.O2O.maximal I oL oR htf e he h1 h2 hne

/-- Same fact in the model's terms: at the exit of a tie-free run `__splink__df_ranked_k` is empty. -/
theorem no_candidate_when_tie_free (I : Inst) (oL oR : Oracle) (htf : TieFree I) :
    cands I (run I oL oR).rep = [] :=
  Lemmas.O2O.run_no_cands I oL oR htf

/-! ### Connectivity fails with ties (finding K4) -/

/-- The 6-node witness of DESIGN §6 C12: records `a0 a1 a2 a3 b4 b5` (ranks 0–5), dataset
`b` duplicate-free, threshold 0.5, probabilities 0.6/0.7/0.8 written as 6/7/8. -/
def K4 : Inst where
  n := 6
  ds := fun v => if v < 4 then 0 else 1
  dupFree := [1]
  edges := [(2, 5, 7), (3, 2, 6), (5, 0, 7), (5, 4, 6), (4, 0, 7), (3, 0, 6), (1, 2, 8), (2, 4, 7)]
  thr := some 5

/-- Oracle that prefers, in pass `k`, the rows (positions in `__splink__df_neighbours`) listed in `t[k]`. -/
def pick (t : List (List Nat)) : Oracle := fun k i => if (t.getD k []).contains i then 1 else 0
/-- Tie-breaks of the `partition by l.representative` window. -/
def K4L : Oracle := pick [[14, 1, 2, 4, 6, 10], [0, 1, 8, 15], [1, 9]]
/-- Tie-breaks of the `partition by r.representative` window. -/
def K4R : Oracle := pick [[0, 6, 2, 7, 9, 14], [0, 15, 7, 9], [1, 9]]

/-- With ties, a returned cluster need not be connected through kept edges: under the
oracles `K4L`, `K4R` the model returns `{1, 4}` as a cluster (record 2 joined group 1, record
4 joined it through the edge 2–4, then record 2 moved on to group 0 — only the endpoint of an
accepted row is relabelled — and the loop exited), and there is no edge 1–4.  The real code
returns exactly this table on this input (DuckDB, 1/4/16 threads). -/
theorem connected_counter_ties :
    ∃ (I : Inst) (oL oR : Oracle), (run I oL oR).done = true ∧ ¬ Connected I (run I oL oR).rep := by
  refine ⟨K4, K4L, K4R, Lemmas.O2O.run_done _ _ _, ?_⟩
  have hrun : (run K4 K4L K4R).rep = [0, 1, 0, 0, 1, 0] := by decide +kernel
  rw [hrun]
  intro hc
  have hreach := hc 1 4 (by decide) (by decide) (by decide)
  have hno : ∀ y, ¬ adjB K4 [0, 1, 0, 0, 1, 0] 1 y = true := by
    intro y
    by_cases hy : y < 6
    · have hall : (List.range 6).all (fun y => !adjB K4 [0, 1, 0, 0, 1, 0] 1 y) = true := by decide +kernel
      have := List.all_eq_true.mp hall y (List.mem_range.mpr hy)
      simpa using this
    · exact fun h => hy ((Lemmas.O2O.adjB_iff K4 _ 1 y).mp h).2.1
  -- record 1 has no neighbour inside its cluster, so nothing but itself is reached from it
  exact absurd (Lemmas.reach_stuck hno hreach) (by decide)

/-! ### Connectivity without ties (the argument is in `Lemmas/OneToOneConn.lean`) -/

/-- With pairwise distinct probabilities every returned cluster is connected through kept
edges that stay inside the cluster — for every pair of tie-break oracles. -/
theorem connected_tie_free (I : Inst) (oL oR : Oracle) (htf : TieFree I) :
    Connected I (run I oL oR).rep :=
  Lemmas.O2O.connected_tie_free I oL oR htf

/-- The returned partition of a tie-free input is the constrained Kruskal partition: two
records share a cluster iff they are joined by a path of accepted Kruskal edges. -/
theorem partition_is_kruskal_when_tie_free (I : Inst) (oL oR : Oracle) (htf : TieFree I)
    (u v : Nat) (hu : u < I.n) (hv : v < I.n) :
    repOf (run I oL oR).rep u = repOf (run I oL oR).rep v ↔
      Reach (Lemmas.O2O.adjOf (Lemmas.O2O.KS I)) u v :=
  Lemmas.O2O.run_eq_kruskal I oL oR htf u v hu hv

/-! ### Connectivity from a parent forest

`connected_partial` needs no `TieFree` and speaks of any table, not only of the loop's: record for every node `v` the
neighbour `par v` from which it took its representative (DESIGN §6 C12, the *parent forest*: parent edges are rows of
`__splink__df_neighbours`, `τ` decreases towards the roots, a root is labelled by itself).  If the forest satisfies
**I-P** — a node and its parent carry the same label or their groups do not clash — and the table has no candidate row,
every group is a subtree, hence connected.  That the loop maintains such a forest is not proved;
`connected_tie_free` does not use it. -/

/-- I-P ⇒ connectivity at a state without candidate rows. -/
theorem connected_partial (I : Inst) (rep : Reps) (par τ : Nat → Nat)
    (hroot : ∀ v, v < I.n → par v = v → repOf rep v = v)
    (hedge : ∀ v, v < I.n → par v ≠ v →
      par v < I.n ∧ τ (par v) < τ v ∧ ∃ x ∈ rows I, node x = v ∧ nbr x = par v)
    (hIP : ∀ v, v < I.n → par v ≠ v → repOf rep (par v) ≠ repOf rep v →
      conflict I rep (repOf rep v) (repOf rep (par v)) = false)
    (hnc : cands I rep = []) : Connected I rep := by
  open Lemmas.O2O Lemmas in
  -- parents carry the same label (otherwise the parent edge would be a candidate row)
  have same : ∀ v, v < I.n → par v ≠ v → repOf rep (par v) = repOf rep v := by
    intro v hv hp
    apply Classical.byContradiction
    intro hne
    obtain ⟨hpn, _, x, hx, hxn, hxb⟩ := hedge v hv hp
    have : x ∈ cands I rep := by
      refine (mem_cands I rep x).mpr ⟨hx, (isCand_iff I rep x).mpr ?_⟩
      rw [hxn, hxb]
      exact ⟨hv, hpn, fun h => hne h.symm, hIP v hv hp hne⟩
    rw [hnc] at this
    cases this
  have up : ∀ t v, v < I.n → τ v < t →
      Reach (fun a b => adjB I rep a b = true) v (repOf rep v) ∧
      Reach (fun a b => adjB I rep a b = true) (repOf rep v) v := by
    intro t
    induction t with
    | zero =>
      intro v _ h
      omega
    | succ t ih =>
      intro v hv ht
      by_cases hp : par v = v
      · rw [hroot v hv hp]
        exact ⟨Reach.refl _, Reach.refl _⟩
      · obtain ⟨hpn, hτ, x, hx, hxn, hxb⟩ := hedge v hv hp
        have hs := same v hv hp
        obtain ⟨r1, r2⟩ := ih (par v) hpn (by omega)
        rw [hs] at r1 r2
        have he : repOf rep (node x) = repOf rep (nbr x) := by
          rw [hxn, hxb]
          exact hs.symm
        have hadj := adjB_of_row I rep x hx (hxn ▸ hv) (hxb ▸ hpn) he
        rw [hxn, hxb] at hadj
        exact ⟨reach_trans (reach_single hadj.1) r1, Reach.tail r2 hadj.2⟩
  intro u v hu hv huv
  have a := (up (τ u + 1) u hu (by omega)).1
  have b := (up (τ v + 1) v hv (by omega)).2
  rw [huv] at a
  exact reach_trans a b

/-- Example 1 of `tests/test_cluster_using_single_best_links.py` (9 records over datasets
a, b, c, all duplicate-free, ranks = order of the composite ids `a-__-0 < a-__-3 < a-__-6 <
b-__-1 < …`; the two tied pairs of probabilities of the test, .90/.90 and .70/.70, are made
distinct as .91/.90 and .71/.70): tie-free, four passes, clusters as the test expects. -/
def Ex1 : Inst where
  n := 9
  ds := fun v => v / 3
  dupFree := [0, 1, 2]
  edges := [(0, 3, 90), (3, 6, 70), (1, 7, 85), (4, 7, 91), (2, 7, 80), (2, 5, 71)]
  thr := some 50

example : TieFree Ex1 := by decide +kernel
example : cluster Ex1 zeroOracle zeroOracle =
    [(0, 0), (1, 1), (2, 2), (3, 0), (4, 1), (5, 2), (6, 0), (7, 1), (8, 8)] := by decide +kernel
example : trace Ex1 zeroOracle zeroOracle = [2, 2, 2, 0] := by decide +kernel
/-- The K4 witness has ties, and the model's run on it takes four passes. -/
example : ¬ TieFree K4 ∧ trace K4 K4L K4R = [2, 2, 1, 0] := by decide +kernel

end SplinkVerif.C12
