import SplinkVerif.Lemmas.EMBridge
/-!
# C03 (bridge) — the executable E-step is the posterior of the abstract mixture model

`Properties/C03Likelihood.lean` proves likelihood monotonicity for an abstract EM step.
This file connects the **E-step** of the executable model (`EM.eProb`, built on
`Score.score`: prior odds × Bayes factors → `bf / (1 + bf)`) to the abstract posterior
`post = pm / (pm + pu)`, at `ℝ`, for parameters without term-frequency adjustments and
without `u = 0`, on rows where every comparison assigns a level.

The abstraction (`Lemmas.EMBridge.absParams`, `absPattern`): comparison `c` has one abstract
level per *position* in the executable comparison; `m c i`, `u c i` are the values stored
at position `i`; the pattern of a row in comparison `c` is the position of the first level
carrying the value `gamma` returns, or `none` when that level is the null level.

The M-step is bridged in `Properties/C03MBridge.lean` under the same abstraction: the group sums,
the window sums, the new prior and the observed levels (`C03MB.mcount_is_abstract_count`,
`denominator_is_abstract_window_sum`, `lambda_is_abstract_lambda`, `observed_is_abstract_observed`),
and with them `EM.step` against `Lemmas.EML.emStep` (`C03MB.step_is_abstract_emstep`), which makes
`loglik_mono` a theorem about `EM.step` (`C03MB.loglik_mono_executable`).
-/
namespace SplinkVerif.C03B
open SplinkVerif SplinkVerif.Score SplinkVerif.Lemmas SplinkVerif.Lemmas.EMBridge

/-- The executable E-step probability equals the abstract posterior (every comparison
assigns a level to the row). -/
theorem eprob_is_posterior (θ : EM.Params ℝ) (r : EM.Row ℝ)
    (hl0 : 0 < θ.prior) (hl1 : θ.prior < 1)
    (hg : r.pair.guards.length = θ.comps.length)
    (hnotf : ∀ c ∈ θ.comps, hasTf c = false)
    (hpos : ∀ c ∈ θ.comps, ∀ l ∈ c, l.isNull = false → 0 < l.m ∧ 0 < l.u)
    (htot : ∀ c : Fin θ.comps.length,
      (gamma θ.comps[c.val] (r.pair.guards[c.val]'(by omega))).isSome = true) :
    EM.eProb θ r = EML.post (absParams θ) (absPattern θ r) :=
  eProb_eq_post_abs θ r hl0 hl1 hg hnotf hpos htot

/-- … in particular when every comparison has an `ELSE` level. -/
theorem eprob_is_posterior_else (θ : EM.Params ℝ) (r : EM.Row ℝ)
    (hl0 : 0 < θ.prior) (hl1 : θ.prior < 1)
    (hg : r.pair.guards.length = θ.comps.length)
    (hnotf : ∀ c ∈ θ.comps, hasTf c = false)
    (hpos : ∀ c ∈ θ.comps, ∀ l ∈ c, l.isNull = false → 0 < l.m ∧ 0 < l.u)
    (helse : ∀ c ∈ θ.comps, ∃ l ∈ c, l.isElse = true)
    (hgl : ∀ c : Fin θ.comps.length,
      (θ.comps[c.val]).length ≤ (r.pair.guards[c.val]'(by omega)).length) :
    EM.eProb θ r = EML.post (absParams θ) (absPattern θ r) :=
  eProb_eq_post_abs θ r hl0 hl1 hg hnotf hpos fun c =>
    Lemmas.Score.gamma_total _ _ (helse _ (List.getElem_mem _)) (hgl c)

end SplinkVerif.C03B
