import SplinkVerif.Lemmas.Levels
import SplinkVerif.Generated.Levels
/-!
# C16 — Library comparison levels mean what their documentation says

Model: `Model/Levels.lean` (`sat` = the SQL condition of every level creator under three-valued logic,
`levelsOf` = every `create_comparison_levels`, `gammaOf` = the CASE statement).  All theorems hold for every
`Metrics` (great-circle distance, cosine, user-named SQL functions and custom SQL are inputs).
`Generated/Levels.lean` is re-extracted from the real creator objects on every run.
-/
namespace SplinkVerif.C16
open SplinkVerif SplinkVerif.B3 SplinkVerif.Levels

/-- The null level is two-valued (never NULL) and TRUE exactly when a value is missing on either side
(for a validity pattern / date parse the column expression is the extracted value, NULL when invalid). -/
theorem null_level_two_valued (M : Metrics) (c : ColExpr) (l r : Env) :
    sat M (.null c) l r ≠ none ∧ (sat M (.null c) l r = some true ↔ (l c = .null ∨ r c = .null)) := by
  simp [sat, Val.isNull_iff]

/-- Every level the creators flag `is_null_level` (NullLevel and And/Or of null levels) is two-valued. -/
theorem null_flagged_levels_two_valued (M : Metrics) (l r : Env) (k : LevelKind) (h : isNullLevel k = true) :
    sat M k l r ≠ none := by
  induction k with
  | null c => simp [sat]
  | and a b iha ihb =>
    simp only [isNullLevel, Bool.and_eq_true] at h
    exact and3_ne_none (iha h.1) (ihb h.2)
  | or a b iha ihb =>
    simp only [isNullLevel, Bool.and_eq_true] at h
    exact or3_ne_none (iha h.1) (ihb h.2)
  | _ => cases h

/-- `And`/`Or`/`Not` are SQL's Kleene connectives of the member conditions. -/
theorem kleene_compose (M : Metrics) (a b : LevelKind) (l r : Env) :
    sat M (.and a b) l r = and3 (sat M a l r) (sat M b l r) ∧
    sat M (.or a b) l r = or3 (sat M a l r) (sat M b l r) ∧
    sat M (.not a) l r = not3 (sat M a l r) :=
  ⟨rfl, rfl, rfl⟩

/-- The order in which the members of an `And` / `Or` are written does not matter, NULLs included. -/
theorem kleene_comm (M : Metrics) (a b : LevelKind) (l r : Env) :
    sat M (.and a b) l r = sat M (.and b a) l r ∧ sat M (.or a b) l r = sat M (.or b a) l r :=
  ⟨and3_comm _ _, or3_comm _ _⟩

/-- Associativity: an n-ary `And(a, b, c)` (SQL `(a) AND (b) AND (c)`) is any binary nesting. -/
theorem kleene_assoc (M : Metrics) (a b c : LevelKind) (l r : Env) :
    sat M (.and (.and a b) c) l r = sat M (.and a (.and b c)) l r ∧
    sat M (.or (.or a b) c) l r = sat M (.or a (.or b c)) l r :=
  ⟨and3_assoc _ _ _, or3_assoc _ _ _⟩

/-- De Morgan and double negation under three-valued logic. -/
theorem kleene_de_morgan (M : Metrics) (a b : LevelKind) (l r : Env) :
    sat M (.not (.and a b)) l r = sat M (.or (.not a) (.not b)) l r ∧
    sat M (.not (.or a b)) l r = sat M (.and (.not a) (.not b)) l r ∧
    sat M (.not (.not a)) l r = sat M a l r :=
  ⟨not3_and3 _ _, not3_or3 _ _, not3_not3 _⟩

/-- A pair satisfies `And` iff it satisfies both members, `Or` iff it satisfies one. -/
theorem kleene_satisfied (M : Metrics) (a b : LevelKind) (l r : Env) :
    isTrue (sat M (.and a b) l r) = (isTrue (sat M a l r) && isTrue (sat M b l r)) ∧
    isTrue (sat M (.or a b) l r) = (isTrue (sat M a l r) || isTrue (sat M b l r)) :=
  ⟨isTrue_and3 _ _, isTrue_or3 _ _⟩

/-- `Not(NullLevel)` is not a null level, and holds exactly when both values are present. -/
theorem not_of_null_is_not_null_level (M : Metrics) (k : LevelKind) (c : ColExpr) (l r : Env) :
    isNullLevel (.not k) = false ∧ (sat M (.not (.null c)) l r = some true ↔ (l c ≠ .null ∧ r c ≠ .null)) :=
  ⟨rfl, by simp [sat, not3, ← Val.isNull_iff]⟩

/-- Thresholds of one family nest: a pair within the stricter threshold is within the looser one
(ascending for distances and differences, descending for similarities and intersection sizes). -/
theorem family_nested (M : Metrics) (f : Family) (k₁ k₂ : Q) (l r : Env)
    (h : if f.ascending = true then k₁.toRat ≤ k₂.toRat else k₂.toRat ≤ k₁.toRat) :
    isTrue (sat M (f.level k₁) l r) = true → isTrue (sat M (f.level k₂) l r) = true := by
  -- once the family is known `h`, `Family.level` and `sat` compute: each case is the monotonicity of its comparison
  cases f with
  | levenshtein c => exact cmpLe_mono h
  | damerauLevenshtein c => exact cmpLe_mono h
  | dlOrLev c => exact cmpLe_mono h
  | jaroWinkler c => exact cmpGe_mono h
  | jaro c => exact cmpGe_mono h
  | jaccard c => exact cmpGe_mono h
  | distanceFunction c fn hi =>
    cases hi
    · exact cmpLe_mono h
    · exact cmpGe_mono h
  | pairwise c m =>
    cases m
    · exact cmpLe_mono h
    · exact cmpLe_mono h
    · exact cmpGe_mono h
    · exact cmpGe_mono h
  | absoluteTimeDifference c s u fmt => exact cmpLe_mono (mul_seconds_mono u h)
  | absoluteDateDifference c s u fmt => exact cmpLe_mono (mul_seconds_mono u h)
  | distanceInKm la lo nn =>
    cases nn
    · exact cmpLe_mono h
    · simp only [Family.level, sat, if_true, isTrue_and3, Bool.and_eq_true]
      exact fun hh => ⟨hh.1, cmpLe_mono h hh.2⟩
  | cosineSimilarity c =>
    simp only [Family.level, sat]
    split
    · exact cmpGe_mono h
    · exact id
  | arrayIntersect c =>
    simp only [Family.level, sat]
    split
    · exact cmpGe_mono h
    · exact id
  | percentageDifference c => exact cmpLt_mono h
  | absoluteDifference c => exact cmpLe_mono h

/-- EVERY library comparison, for ALL constructor arguments: the null level is first (and only first), ELSE is
last (and only last), no exact match follows a fuzzy level on its column, and same-family levels go from strict to
loose — under the hypothesis the creators silently rely on (`ArgsOrdered`: the threshold list is given
strict-to-loose; the library neither sorts nor validates it). -/
theorem comparison_well_formed (k : ComparisonKind) (h : ArgsOrdered k) : WellFormed (levelsOf k) := by
  -- Every list is `null level :: inner ++ [ELSE]` (`wellFormed_of`); the inner part is put together from exact matches,
  -- runs of one family (ordered by `h`) and single levels of other creators, unrelated to their neighbours by evaluation
  -- (`⟨rfl, rfl⟩`).
  cases k with
  | exactMatch c => exact wellFormed_of rfl (.exact c .nil)
  | levenshteinAtThresholds c ts => exact wellFormed_of rfl (.exact c (.family (.levenshtein c) h))
  | damerauLevenshteinAtThresholds c ts => exact wellFormed_of rfl (.exact c (.family (.damerauLevenshtein c) h))
  | jaccardAtThresholds c ts => exact wellFormed_of rfl (.exact c (.family (.jaccard c) h))
  | jaroAtThresholds c ts => exact wellFormed_of rfl (.exact c (.family (.jaro c) h))
  | jaroWinklerAtThresholds c ts => exact wellFormed_of rfl (.exact c (.family (.jaroWinkler c) h))
  | distanceFunctionAtThresholds c fn ts hi =>
    cases hi <;> exact wellFormed_of rfl (.exact c (.family (.distanceFunction c fn _) h))
  | arrayIntersectAtSizes c ts => exact wellFormed_of rfl (.family (.arrayIntersect c) h)
  | distanceInKMAtThresholds lat long ts => exact wellFormed_of rfl (.family (.distanceInKm lat long false) h)
  | cosineSimilarityAtThresholds c ts => exact wellFormed_of rfl (.family (.cosineSimilarity c) h)
  | customComparison levels => exact h
  | pairwiseStringDistanceFunctionAtThresholds c m ts =>
    exact wellFormed_of rfl (.cons ⟨rfl, nofun⟩ (List.forall_mem_map.mpr fun _ _ => ⟨rfl, rfl⟩)
      (.family (.pairwise c m) (by cases m <;> exact h)))
  | absoluteTimeDifferenceAtThresholds c isStr units ts fmt inv =>
    exact wellFormed_of rfl (.exact c (.map (fun _ => ⟨rfl, nofun⟩)
      (fun _ _ => before_absoluteTimeDifference c isStr fmt) (of_decide_eq_true h)))
  | absoluteDateDifferenceAtThresholds c isStr units ts fmt inv =>
    exact wellFormed_of rfl (.exact c (.map (fun _ => ⟨rfl, nofun⟩)
      (fun _ _ => before_absoluteDateDifference c isStr fmt) (of_decide_eq_true h)))
  | dateOfBirthComparison c isStr ts units fmt inv =>
    exact wellFormed_of rfl (.exact c (.cons ⟨rfl, nofun⟩ (List.forall_mem_map.mpr fun _ _ => ⟨rfl, rfl⟩)
      (.map (fun _ => ⟨rfl, nofun⟩) (fun _ _ => before_absoluteDateDifference c isStr fmt) (of_decide_eq_true h))))
  | postcodeComparison c inv latLong kms =>
    -- distance levels only when both the coordinates and at least one threshold are given
    cases latLong with
    | none => exact wellFormed_of rfl (.exact c (.exact _ (.exact _ (.exact _ .nil))))
    | some ll =>
      cases kms with
      | nil => exact wellFormed_of rfl (.exact c (.exact _ (.exact _ (.exact _ .nil))))
      | cons k ks => exact wellFormed_of rfl (.exact c (.exact _ (.family (.distanceInKm ll.1 ll.2 false) h)))
  | emailComparison c =>
    exact wellFormed_of (mid := [_, _, _, _]) rfl (.exact _ (.exact _ (.cons ⟨rfl, nofun⟩
      (List.forall_mem_singleton.mpr ⟨Bool.or_eq_true_iff.mpr (.inr (decide_eq_true Rat.le_refl)), rfl⟩)
      (.cons ⟨rfl, nofun⟩ nofun .nil))))
  | nameComparison c ts dmeta =>
    cases dmeta with
    | none => exact wellFormed_name c _ h .nil nofun
    | some d =>
      exact wellFormed_name c _ h (D := [_]) (.cons ⟨rfl, nofun⟩ nofun .nil)
        (List.forall_mem_singleton.mpr fun _ => ⟨⟨rfl, rfl⟩, rfl, rfl⟩)
  | forenameSurnameComparison f s ts concat =>
    cases concat with
    | some cc => exact wellFormed_forenameSurname f s h ⟨rfl, nofun⟩ fun b _ => before_exact cc b
    | none =>
      refine wellFormed_forenameSurname f s h ⟨rfl, nofun⟩ ?_
      simp only [List.forall_mem_cons, List.forall_mem_append, List.forall_mem_map]
      exact ⟨⟨rfl, rfl⟩, fun _ _ => ⟨rfl, rfl⟩, ⟨rfl, rfl⟩, ⟨rfl, rfl⟩, nofun⟩

/-- In a level list ending in ELSE every pair of records is assigned exactly one level: the first whose
condition is TRUE (what the CASE statement returns). -/
theorem exactly_one_level (M : Metrics) (levels : List LevelKind) (l r : Env)
    (h : levels.getLast? = some .else_) :
    ∃ i, firstTrue M l r levels = some i ∧ AssignedAt M levels l r i ∧
      ∀ k, AssignedAt M levels l r k → k = i := by
  obtain ⟨i, hi⟩ := firstTrue_some_of_else M levels l r h
  exact ⟨i, hi, (firstTrue_eq_some_iff M l r levels i).1 hi,
    fun k hk => Option.some.inj (((firstTrue_eq_some_iff M l r levels k).2 hk).symm.trans hi)⟩

/-- Corollary for the library: every comparison with ordered arguments assigns exactly one level to every pair. -/
theorem library_exactly_one_level (M : Metrics) (k : ComparisonKind) (h : ArgsOrdered k) (l r : Env) :
    ∃ i, firstTrue M l r (levelsOf k) = some i ∧ AssignedAt M (levelsOf k) l r i ∧
      ∀ j, AssignedAt M (levelsOf k) l r j → j = i :=
  exactly_one_level M (levelsOf k) l r (wf_getLast (comparison_well_formed k h))

/-- The argument of `acos` in the great-circle formula is clipped into [-1, 1] (over ℚ; the driver runs the
same `clip` on doubles). -/
theorem haversine_clipped (x : Rat) : (-1 : Rat) ≤ clip x ∧ clip x ≤ 1 := by
  unfold clip
  split
  · decide
  split
  · decide
  · exact ⟨Rat.not_lt.mp ‹_›, Rat.not_lt.mp ‹_›⟩

/-- The hand model `levelsOf` reproduces the level list of every REAL creator object of the extracted grid
(finite quantifier: kernel evaluation). -/
theorem generated_matches_model : ∀ r ∈ Generated.table, levelsOf r.1 = r.2 := by decide +kernel

/-- Every REAL creator object of the extracted grid whose arguments are ordered has a well-formed level list: `wfB` holds
of the extracted list itself. -/
theorem comparison_well_formed_generated :
    ∀ r ∈ Generated.table, argsOrderedB r.1 = true → wfB r.2 = true :=
  fun r hr h => generated_matches_model r hr ▸ comparison_well_formed r.1 h

/-- The library does not sort thresholds: the extracted grid contains comparisons with unordered arguments whose
levels are NOT ordered (a looser level shadows a stricter one). -/
theorem unsorted_thresholds_not_well_formed :
    ∃ r ∈ Generated.table, argsOrderedB r.1 = false ∧ wfB r.2 = false := by decide +kernel

section
def m0 : Metrics := ⟨fun _ _ _ _ => none, fun _ _ => none, fun _ _ _ => none, fun _ _ _ => none⟩
def cS : ColExpr := ⟨"s", []⟩
def envOf (v : Val) : Env := fun _ => v

example : sat m0 (.levenshtein cS ⟨1, 1⟩) (envOf (.str "kitten")) (envOf (.str "sitten")) = some true := by decide +kernel
example : sat m0 (.levenshtein cS ⟨1, 1⟩) (envOf (.str "kitten")) (envOf (.str "sitting")) = some false := by decide +kernel
example : sat m0 (.levenshtein cS ⟨1, 1⟩) (envOf .null) (envOf (.str "a")) = none := by decide +kernel
example : sat m0 (.jaroWinkler cS ⟨9, 10⟩) (envOf (.str "martha")) (envOf (.str "marhta")) = some true := by decide +kernel
example : gammaOf m0 (levelsOf (.levenshteinAtThresholds cS [⟨1, 1⟩, ⟨2, 1⟩])) (envOf (.str "ab")) (envOf (.str "ba")) = some 1 := by
  decide +kernel
example : gammaOf m0 (levelsOf (.levenshteinAtThresholds cS [⟨1, 1⟩, ⟨2, 1⟩])) (envOf .null) (envOf (.str "ba")) = some (-1) := by
  decide +kernel
example : argsOrderedB (.levenshteinAtThresholds cS [⟨1, 1⟩, ⟨2, 1⟩]) = true := by decide +kernel
example : argsOrderedB (.levenshteinAtThresholds cS [⟨2, 1⟩, ⟨1, 1⟩]) = false := by decide +kernel
end

end SplinkVerif.C16
