import SplinkVerif.Lemmas.Creators
import SplinkVerif.Generated.CreatorWrites
/-!
# C17 — turning a specification into SQL is deterministic and side-effect free

Generic theorems about creators as state machines (`Model/Creators.lean`) plus decided facts about the
*generated* table `Gen.creatorWrites` (`Generated/CreatorWrites.lean`, rebuilt from Splink's source by
`harness/translate/twrites.py` on every run).

Finding F10 (`AbsoluteTimeDifferenceLevel.create_sql`, inherited by `AbsoluteDateDifferenceLevel`, assigned
`self.col_expression = <parse>(self.col_expression)`) is repaired in Splink: the table has no `selfDependent` row
and `all_creators_stateless` is decided on it.  If such a write comes back, that theorem stops compiling (as it
must); the others stay valid.
-/
namespace SplinkVerif.C17
open SplinkVerif SplinkVerif.Creators

/-- **stateless ⇒ call sequences equal fresh objects.**  If no write of a creator re-reads what it writes, then for
every sequence of calls over dialects on one object the i-th output equals the output of a freshly constructed
object called once with the i-th dialect.  `Local`: the output reads configuration and attributes assigned in the
same call. -/
theorem stateless_calls_commute {β : Type} (c : Creator) (obs : Dialect → State → β)
    (hs : Stateless c.writes) (hl : Local c obs) (ds : List Dialect) :
    (c.callSeq obs fresh ds).2 = ds.map (fun d => obs d (c.call fresh d)) :=
  Lemmas.Creators.callSeq_outputs c obs hs hl ds fresh (fun _ _ => rfl)

/-- …and the object itself: after any call sequence every attribute either still has its constructor value, or is
one the table lists as written and holds a value that is a function of configuration and dialect only. -/
theorem stateless_state_after {β : Type} (c : Creator) (obs : Dialect → State → β)
    (hs : Stateless c.writes) (ds : List Dialect) (a : Attr) :
    (c.callSeq obs fresh ds).1 a = fresh a ∨
      (a ∈ c.attrs ∧ ((c.callSeq obs fresh ds).1 a).isPure = true) :=
  (Lemmas.Creators.callSeq_cases c obs ds fresh a).imp id fun ⟨d, _, w, hw, ha, _, v, h⟩ =>
    ⟨ha ▸ List.mem_map_of_mem hw, h ▸ Lemmas.Creators.written_pure d w (hs w hw) v⟩

/-- If every write is a dialect slot, the object after any call sequence differs from a fresh one only on dialect
slots, and a slot holds a dialect of the sequence. -/
theorem only_slots_state_after {β : Type} (c : Creator) (obs : Dialect → State → β)
    (hs : OnlySlots c.writes) (ds : List Dialect) (a : Attr) :
    (c.callSeq obs fresh ds).1 a = fresh a ∨
      (a ∈ c.attrs ∧ ∃ d ∈ ds, (c.callSeq obs fresh ds).1 a = .dial d) :=
  (Lemmas.Creators.callSeq_cases c obs ds fresh a).imp id fun ⟨d, hd, w, hw, ha, _, v, h⟩ =>
    ⟨ha ▸ List.mem_map_of_mem hw, d, hd, h.trans (Lemmas.Creators.written_slot d w (hs w hw) v)⟩

/-- Whatever the kinds: attributes outside the table are never changed. -/
theorem unlisted_attributes_unchanged {β : Type} (c : Creator) (obs : Dialect → State → β)
    (ds : List Dialect) (s : State) (a : Attr) (ha : a ∉ c.attrs) : (c.callSeq obs s ds).1 a = s a :=
  (Lemmas.Creators.callSeq_cases c obs ds s a).resolve_right fun ⟨_, _, _, hw, h, _⟩ => ha (h ▸ List.mem_map_of_mem hw)

/-- The converse side: one firing `selfDependent` write makes the second call leave a different value than a
fresh object's call (the mechanism of F10: `try_strptime(try_strptime(..))`). -/
theorem self_dependent_second_call_differs (w : Write) (hk : w.kind = .selfDependent) (d1 d2 : Dialect) :
    let c : Creator := ⟨[w], fun _ _ => true⟩
    c.call (c.call fresh d1) d2 w.attr ≠ c.call fresh d2 w.attr := by
  simp only [Creator.call, runWrites, List.foldl_cons, List.foldl_nil, applyWrite, and_self, if_true, written, hk, fresh]
  intro h
  injection h with _ h2
  exact Lemmas.Creators.wrap_ne _ _ h2

/-- The classes of finding F10: their `create_sql` re-wrapped `self.col_expression` on every call.  With F10
repaired the generated table has no `selfDependent` row for them, or for any class. -/
def f10Classes : List String :=
  ["comparison_level_library.AbsoluteTimeDifferenceLevel", "comparison_level_library.AbsoluteDateDifferenceLevel"]

/-- No creator of the library re-reads what it writes: a finite check of the whole generated table. -/
theorem all_creators_stateless : Stateless Gen.creatorWrites := by decide +kernel

/-- A self-dependent write in the library can only be F10's: `create_sql` of an F10 class assigning `col_expression`.
On the table as generated from the repaired Splink there is none (`all_creators_stateless`), so this holds of no
row; it is what keeps `library_creators_commute` valid should F10's write come back. -/
theorem all_creators_stateless_except :
    ∀ w ∈ Gen.creatorWrites, w.kind = .selfDependent →
      w.cls ∈ f10Classes ∧ w.method = "create_sql" ∧ w.attr = "col_expression" := by
  decide +kernel

/-- Every write that is not a dialect slot is either F10's or one of `CustomComparison.get_configured_comparison_levels`
configuring the level creators the user passed in (`cl.configure(m_probability=…)`, `cl.term_frequency_adjustments = True`):
these are the only places where a creator object does not stay as constructed, dialect slots aside. -/
theorem non_slot_writes_known :
    ∀ w ∈ Gen.creatorWrites, w.kind ≠ .dialectSlot →
      (w.cls ∈ f10Classes ∧ w.method = "create_sql" ∧ w.attr = "col_expression") ∨
      (w.cls = "comparison_library.CustomComparison" ∧ w.method = "get_configured_comparison_levels" ∧
        w.kind = .configConstant) := by
  decide +kernel

/-- End to end: for every analysed creator class other than the F10 classes, with the rows the translator generated
for it and whatever its guards do, every call sequence gives the outputs of fresh objects. -/
theorem library_creators_commute {β : Type} (cls : String) (hcls : cls ∉ f10Classes)
    (fires : Dialect → Write → Bool) (obs : Dialect → State → β)
    (hl : Local ⟨rowsOf Gen.creatorWrites cls, fires⟩ obs) (ds : List Dialect) :
    (Creator.callSeq ⟨rowsOf Gen.creatorWrites cls, fires⟩ obs fresh ds).2 =
      ds.map (fun d => obs d (Creator.call ⟨rowsOf Gen.creatorWrites cls, fires⟩ fresh d)) :=
  stateless_calls_commute ⟨rowsOf Gen.creatorWrites cls, fires⟩ obs
    (Lemmas.Creators.stateless_rowsOf Gen.creatorWrites cls
      (fun w hw hk e => hcls (e ▸ (all_creators_stateless_except w hw hk).1))) hl ds

/-! The table is not empty, a real stateless class has rows, and the model runs on them. -/
example : Gen.creatorWrites.length > 40 ∧ Gen.creatorClasses.length > 40 := by decide +kernel
/- The rows of a class are selected by `simp`: `String.reduceEq` refutes an equation of literals at the first position
where they differ, whereas the kernel's `String.decEq` evaluates both strings in full for every row. -/
example : (rowsOf Gen.creatorWrites "comparison_level_library.NullLevel").length = 2 ∧
    "comparison_level_library.NullLevel" ∉ f10Classes := by simp [rowsOf, Gen.creatorWrites, f10Classes]
example :
    (Creator.callSeq ⟨rowsOf Gen.creatorWrites "comparison_level_library.NullLevel", fun _ _ => true⟩
      (fun d s => (d, s "col_expression.sql_dialect")) fresh ["duckdb", "spark"]).2
      = [("duckdb", .dial "duckdb"), ("spark", .dial "spark")] := by
  simp only [rowsOf, Gen.creatorWrites, String.reduceEq, decide_false, Bool.false_eq_true, not_false_eq_true,
    List.filter_cons_of_neg, decide_true, List.filter_cons_of_pos, List.filter_nil]
  decide +kernel
example : (simulate (rowsOf Gen.creatorWrites "comparison_level_library.JaroWinklerLevel") ["duckdb", "spark", "duckdb"])
    = ([true, true, true], ["col_expression.sql_dialect", "*.sql_dialect"]) := by
  simp only [rowsOf, Gen.creatorWrites, String.reduceEq, decide_false, Bool.false_eq_true, not_false_eq_true,
    List.filter_cons_of_neg, decide_true, List.filter_cons_of_pos, List.filter_nil]
  decide +kernel

end SplinkVerif.C17
