import SplinkVerif.Lemmas.MultiSql
/-!
# C11 at the level of the emitted SQL

`Generated/MultiSql.lean` holds the statements one pass of the threshold loop of
`cluster_pairwise_predictions_at_multiple_thresholds` emits (T-sql translator, regenerated on every run);
`Model/MultiSql.lean` is the Python control flow around them (the marginal clustering is the SQL-level
connected-components pipeline `CCSql.cluster`, which returns the rows of `CC.cluster` by `Properties/C05Sql.lean`).
The theorems below say that this pipeline, evaluated with the SQL semantics `Rel.eval`, returns exactly the rows of the
functional model `MultiThreshold.next` / `MultiThreshold.loop` — hence every C11 theorem is a theorem about the
regenerated SQL.  The statement-by-statement lemmas are in `Lemmas/MultiSql.lean`.
-/
namespace SplinkVerif.C11Sql
open SplinkVerif SplinkVerif.Rel

/-- **One pass of the threshold loop refines the model.** -/
theorem sql_step_perm_model (n : Nat) (edges : List (Nat × Nat × Int)) (cc : List (Nat × Nat))
    (tPrev tNew one : Int) (hE : ∀ e ∈ edges, e.1 < n ∧ e.2.1 < n) (hcc : IsClustering n cc) :
    (MultiSql.step (CCSql.nodeRows n) (CCSql.edgeRows edges) (cc.map C05Sql.pairRow)
        (Val.int tPrev) (Val.int tNew) (Val.int one) (CC.fuel n)).Perm
      ((MultiThreshold.next geInt one n edges cc tPrev tNew).map C05Sql.pairRow) :=
  Lemmas.MultiSql.step_perm_gen n edges cc _ tPrev tNew one hE (List.Perm.refl _)

/-- The result of a pass is again a clustering (so passes compose). -/
theorem next_is_clustering (n : Nat) (edges : List (Nat × Nat × Int)) (cc : List (Nat × Nat))
    (tPrev tNew one : Int) (hE : ∀ e ∈ edges, e.1 < n ∧ e.2.1 < n) (hcc : IsClustering n cc) :
    IsClustering n (MultiThreshold.next geInt one n edges cc tPrev tNew) :=
  Lemmas.MT.next_isClustering geInt one n edges cc tPrev tNew hE hcc

/-- **The whole function**: for every list of (already sorted) thresholds the SQL pipeline returns, threshold by
threshold, a permutation of the rows of the functional model's loop. -/
theorem sql_multi_perm_model (n : Nat) (edges : List (Nat × Nat × Int)) (one : Int) (ts : List Int)
    (hE : ∀ e ∈ edges, e.1 < n ∧ e.2.1 < n) :
    List.Forall₂ (fun (sqlRows : List Row) (m : Int × List (Nat × Nat)) => sqlRows.Perm (m.2.map C05Sql.pairRow))
      (MultiSql.multi (CCSql.nodeRows n) (CCSql.edgeRows edges) (Val.int one) (CC.fuel n) (ts.map Val.int))
      (match ts with
        | [] => []
        | t0 :: rest =>
          let cc0 := MultiThreshold.ccAt geInt n (fun _ => true) edges t0
          (t0, cc0) :: MultiThreshold.loop geInt one n edges cc0 t0 rest) := by
  cases ts with
  | nil => exact List.Forall₂.nil
  | cons t0 rest =>
    have h0 : (CCSql.cluster (CCSql.nodeRows n) (CCSql.edgeRows edges) (some (Val.int t0)) (CC.fuel n)).Perm
        ((MultiThreshold.ccAt geInt n (fun _ => true) edges t0).map C05Sql.pairRow) := by
      rw [Lemmas.MT.ccAt_true]
      exact C05Sql.sql_cluster_perm_model n edges (some t0) hE
    exact List.Forall₂.cons h0 (Lemmas.MultiSql.loop_perm_model n edges one hE rest _ _ t0 h0)

end SplinkVerif.C11Sql
