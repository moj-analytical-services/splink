import SplinkVerif.Lemmas.EMLikelihood
import Mathlib.Tactic.NormNum
import Mathlib.Tactic.FinCases
import Mathlib.Algebra.BigOperators.Fin
/-!
# C03 (likelihood) — one EM iteration never lowers the observed-data log-likelihood

What is proved.  `Lemmas/EMLikelihood.lean` defines, over ℝ, the Fellegi–Sunter
two-class mixture on agreement patterns and the EM step that Splink's SQL computes:

* `C` comparisons; comparison `c` has the non-null levels `Fin (L c)`; an agreement
  pattern is `γ : (c : Fin C) → Option (Fin (L c))` where `none` is the null level
  (γ = −1), which contributes the factor 1 to both classes (`_bayes_factor` = 1);
* the data are a finite family of patterns `γ j` with weights `n j > 0`
  (`agreement_pattern_count`; 1 per row in row-wise mode);
* `pm θ γ = lam · ∏_c m_c(γ_c)`, `pu θ γ = (1 − lam) · ∏_c u_c(γ_c)`,
  `lik = pm + pu`, `logLik θ = ∑_j n_j · log (lik θ γ_j)`, `post = pm / lik`
  (the E-step's `match_probability`);
* `emStep fixM fixU fixLam ph γ n θ` — the M-step formulas (`emStep_lam`, `emStep_m`,
  `emStep_u` below state them literally):
  `lam' = ∑_j n_j post_j / ∑_j n_j`,
  `m'_c(l) = ∑_{j : γ_j c = l} n_j post_j / ∑_{j : γ_j c ≠ null} n_j post_j`
  (GROUP BY level, drop the null level, divide by the window sum), `u'` likewise with
  `1 − post_j`; a level that does not occur in the data gets the placeholder `ph`
  (`LEVEL_NOT_OBSERVED`, numeric value 1e-6) — such a level never enters the
  likelihood of the data, so `ph` is arbitrary in `loglik_mono`; a block whose
  session flag (`fixM`, `fixU`, `fixLam` = `training_fixed_probabilities`) is set keeps
  its old value.  The theorem holds for all eight combinations of the flags.

Hypotheses of `loglik_mono`: `0 < lam < 1`, all `m`, `u` positive, all `n_j` positive,
at least one row (`Nonempty J`), and **sub-normalisation on the observed levels**: for
every comparison the current `m` (and `u`) values of the levels that occur in the data
sum to at most 1.  This is needed: EM's new value for a block is the maximiser of the
block's term of the expected complete-data log-likelihood *among (sub-)probability
vectors*; a starting vector with sum > 1 can have a larger likelihood than any
probability vector.  That the hypothesis cannot be dropped is itself a theorem,
`loglik_mono_needs_subnormalised`: a one-row instance meeting every other hypothesis whose
observed level starts at `m = u = 2`, where one unfixed step strictly lowers `logLik`
(from `log 2` to `log 1`).  Splink can reach such a start: a session may begin from the
medians of earlier sessions' estimates, whose observed levels can sum to more than 1
(known finding K8).  The hypothesis holds for Splink's default starting values (the
levels' `m`/`u` of a comparison sum to 1: `subnormalised_of_sum_le_one`) and it is
preserved by the step: `emStep_subnormalised` (the new observed values of an unfixed
block sum to exactly 1) and `emStep_hypotheses_preserved` (all hypotheses hold again
after the step, given `ph > 0`), so the theorem applies to every iteration of a run.
The positivity of the denominators is proved, not assumed (`Lemmas.EML.den_pos`).

Not covered here: level-level fix flags (`fix_m_probability` on a single level),
term-frequency adjustments, `u = 0` (infinite Bayes factors) and floating point.
-/
namespace SplinkVerif.C03L
open SplinkVerif.Lemmas.EML Finset

variable {C : ℕ} {L : Fin C → ℕ} {J : Type} [Fintype J]

/-- The new `lam`: `sum(p * count) / sum(count)`. -/
theorem emStep_lam (fixM fixU : Bool) (ph : ℝ) (γ : J → Pattern C L) (n : J → ℝ)
    (θ : Params C L) :
    (emStep fixM fixU false ph γ n θ).lam = (∑ j, n j * post θ (γ j)) / ∑ j, n j := by
  unfold emStep
  rfl

/-- The new `m` of a level: its share of the window sum when observed, else the placeholder. -/
theorem emStep_m (fixU fixLam : Bool) (ph : ℝ) (γ : J → Pattern C L) (n : J → ℝ)
    (θ : Params C L) (c : Fin C) (l : Fin (L c)) :
    (emStep false fixU fixLam ph γ n θ).m c l =
      if Observed γ c l then
        (∑ j with γ j c = some l, n j * post θ (γ j)) / (∑ j with γ j c ≠ none, n j * post θ (γ j))
      else ph := by
  rw [emStep_m_free]
  rfl

/-- The new `u` of a level. -/
theorem emStep_u (fixM fixLam : Bool) (ph : ℝ) (γ : J → Pattern C L) (n : J → ℝ)
    (θ : Params C L) (c : Fin C) (l : Fin (L c)) :
    (emStep fixM false fixLam ph γ n θ).u c l =
      if Observed γ c l then
        (∑ j with γ j c = some l, n j * (1 - post θ (γ j))) /
          (∑ j with γ j c ≠ none, n j * (1 - post θ (γ j)))
      else ph := by
  rw [emStep_u_free]
  rfl

/-- Fixed blocks keep their value. -/
theorem emStep_fixed (ph : ℝ) (γ : J → Pattern C L) (n : J → ℝ) (θ : Params C L)
    (a b : Bool) :
    (emStep true a b ph γ n θ).m = θ.m ∧ (emStep a true b ph γ n θ).u = θ.u ∧
      (emStep a b true ph γ n θ).lam = θ.lam :=
  ⟨emStep_m_fixed a b ph γ n θ, emStep_u_fixed a b ph γ n θ, emStep_lam_fixed a b ph γ n θ⟩

/-- **One EM iteration never lowers the observed-data log-likelihood**, whichever of the
three blocks are fixed for the session and whatever placeholder is stored for
unobserved levels. -/
theorem loglik_mono [Nonempty J] (fixM fixU fixLam : Bool) (ph : ℝ) (γ : J → Pattern C L)
    (n : J → ℝ) (θ : Params C L)
    (hl0 : 0 < θ.lam) (hl1 : θ.lam < 1)
    (hm : ∀ c l, 0 < θ.m c l) (hu : ∀ c l, 0 < θ.u c l)
    (hn : ∀ j, 0 < n j)
    (hsubm : ∀ c, ∑ l with Observed γ c l, θ.m c l ≤ 1)
    (hsubu : ∀ c, ∑ l with Observed γ c l, θ.u c l ≤ 1) :
    logLik γ n θ ≤ logLik γ n (emStep fixM fixU fixLam ph γ n θ) :=
  Lemmas.EML.loglik_mono fixM fixU fixLam ph γ n θ hl0 hl1 hm hu hn hsubm hsubu

/-- After a step, the new values of the observed levels of every comparison that has a
non-null row sum to exactly 1, for each block that is not fixed. -/
theorem emStep_subnormalised [Nonempty J] (fixM fixU fixLam : Bool) (ph : ℝ)
    (γ : J → Pattern C L) (n : J → ℝ) (θ : Params C L)
    (hl0 : 0 < θ.lam) (hl1 : θ.lam < 1)
    (hm : ∀ c l, 0 < θ.m c l) (hu : ∀ c l, 0 < θ.u c l)
    (hn : ∀ j, 0 < n j) (c : Fin C) (hc : ∃ l, Observed γ c l) :
    (fixM = false → ∑ l with Observed γ c l, (emStep fixM fixU fixLam ph γ n θ).m c l = 1) ∧
    (fixU = false → ∑ l with Observed γ c l, (emStep fixM fixU fixLam ph γ n θ).u c l = 1) := by
  have hq := post_mem (γ := γ) ⟨hl0, hl1, fun c l _ => hm c l, fun c l _ => hu c l⟩
  constructor
  · rintro rfl
    rw [emStep_m_free]
    exact sum_newBlock_observed γ _ (wM_pos γ n θ hn hq) ph c hc
  · rintro rfl
    rw [emStep_u_free]
    exact sum_newBlock_observed γ _ (wU_pos γ n θ hn hq) ph c hc

/-- Every hypothesis of `loglik_mono` about the parameters holds again for the
parameters after the step (any flags; placeholder `ph > 0`). -/
theorem emStep_hypotheses_preserved [Nonempty J] (fixM fixU fixLam : Bool) (ph : ℝ)
    (hph : 0 < ph) (γ : J → Pattern C L) (n : J → ℝ) (θ : Params C L)
    (hl0 : 0 < θ.lam) (hl1 : θ.lam < 1)
    (hm : ∀ c l, 0 < θ.m c l) (hu : ∀ c l, 0 < θ.u c l)
    (hn : ∀ j, 0 < n j)
    (hsubm : ∀ c, ∑ l with Observed γ c l, θ.m c l ≤ 1)
    (hsubu : ∀ c, ∑ l with Observed γ c l, θ.u c l ≤ 1) :
    0 < (emStep fixM fixU fixLam ph γ n θ).lam ∧ (emStep fixM fixU fixLam ph γ n θ).lam < 1 ∧
    (∀ c l, 0 < (emStep fixM fixU fixLam ph γ n θ).m c l) ∧
    (∀ c l, 0 < (emStep fixM fixU fixLam ph γ n θ).u c l) ∧
    (∀ c, ∑ l with Observed γ c l, (emStep fixM fixU fixLam ph γ n θ).m c l ≤ 1) ∧
    (∀ c, ∑ l with Observed γ c l, (emStep fixM fixU fixLam ph γ n θ).u c l ≤ 1) := by
  have h : Interior γ θ := ⟨hl0, hl1, fun c l _ => hm c l, fun c l _ => hu c l⟩
  have hq := post_mem h
  have h' := emStep_interior fixM fixU fixLam ph n h hn
  obtain ⟨sm, su⟩ := emStep_sum_le_one fixM fixU fixLam ph n h hn hsubm hsubu
  refine ⟨h'.lam_pos, h'.lam_lt_one, ?_, ?_, sm, su⟩
  · cases fixM
    · rw [emStep_m_free]
      exact newBlock_pos γ _ (wM_pos γ n θ hn hq) ph hph
    · exact hm
  · cases fixU
    · rw [emStep_u_free]
      exact newBlock_pos γ _ (wU_pos γ n θ hn hq) ph hph
    · exact hu

/-- Blocks whose levels sum to at most 1 per comparison (Splink's defaults sum to 1)
satisfy the sub-normalisation hypothesis whatever the data are. -/
theorem subnormalised_of_sum_le_one (γ : J → Pattern C L) (w : Block C L)
    (hw : ∀ c l, 0 < w c l) (hsum : ∀ c, ∑ l, w c l ≤ 1) (c : Fin C) :
    ∑ l with Observed γ c l, w c l ≤ 1 :=
  le_trans (Finset.sum_le_sum_of_subset_of_nonneg (Finset.filter_subset _ _)
    fun l _ _ => (hw c l).le) (hsum c)

/-! ## The hypotheses are satisfiable: 2 comparisons × 2 levels, 3 patterns -/

/-- patterns `(0,1)`, `(1,null)`, `(0,0)` -/
def exγ : Fin 3 → Pattern 2 (fun _ => 2) := fun j c =>
  (match j.val, c.val with
    | 0, 0 => some 0 | 0, _ => some 1
    | 1, 0 => some 1 | 1, _ => none
    | _, _ => some 0 : Option (Fin 2))

/-- counts 3, 1, 2 -/
def exn : Fin 3 → ℝ := fun j => if j = 0 then 3 else if j = 1 then 1 else 2

/-- `lam = 1/10`, `m = (1/10, 9/10)`, `u = (9/10, 1/10)` in both comparisons -/
noncomputable def exθ : Params 2 (fun _ => 2) where
  lam := 1 / 10
  m := fun _ l => if l = 0 then 1 / 10 else 9 / 10
  u := fun _ l => if l = 0 then 9 / 10 else 1 / 10

example : logLik exγ exn exθ ≤ logLik exγ exn (emStep false false false (1 / 1000000) exγ exn exθ) := by
  have hm : ∀ (c : Fin 2) (l : Fin 2), 0 < exθ.m c l := fun _ _ => ite_pos (by norm_num) (by norm_num)
  have hu : ∀ (c : Fin 2) (l : Fin 2), 0 < exθ.u c l := fun _ _ => ite_pos (by norm_num) (by norm_num)
  have hn : ∀ j, 0 < exn j := fun _ => ite_pos (by norm_num) (ite_pos one_pos two_pos)
  have sm : ∀ c : Fin 2, ∑ l : Fin 2, exθ.m c l ≤ 1 := fun c =>
    (Fin.sum_univ_two _).trans_le (show (1 : ℝ) / 10 + 9 / 10 ≤ 1 by norm_num)
  have su : ∀ c : Fin 2, ∑ l : Fin 2, exθ.u c l ≤ 1 := fun c =>
    (Fin.sum_univ_two _).trans_le (show (9 : ℝ) / 10 + 1 / 10 ≤ 1 by norm_num)
  exact loglik_mono false false false _ exγ exn exθ (show (0 : ℝ) < 1 / 10 by norm_num)
    (show (1 : ℝ) / 10 < 1 by norm_num) hm hu hn
    (subnormalised_of_sum_le_one exγ exθ.m hm sm) (subnormalised_of_sum_le_one exγ exθ.u hu su)

/-! ## The sub-normalisation hypothesis is necessary (known finding K8)

One comparison with one level, one row (count 1) that observes it, `lam = 1/2`, `m = u = 2`:
the observed level's `m` and `u` are 2 > 1.  The row's likelihood is `1/2·2 + 1/2·2 = 2`; the
step renormalises both blocks to `m' = u' = 1` on the observed level, so whatever `lam'` is the
likelihood becomes `lam' + (1 - lam') = 1`, and the log-likelihood falls from `log 2` to
`log 1 = 0`. -/

/-- the single pattern: the level of the only comparison -/
def k8γ : Fin 1 → Pattern 1 (fun _ => 1) := fun _ _ => some 0

def k8n : Fin 1 → ℝ := fun _ => 1

/-- `lam = 1/2`, `m = u = 2`: super-normalised on the observed level -/
noncomputable def k8θ : Params 1 (fun _ => 1) := ⟨1 / 2, fun _ _ => 2, fun _ _ => 2⟩

theorem k8_lik : lik k8θ (k8γ 0) = 2 := by
  rw [lik, pm, pu, Fin.prod_univ_one, Fin.prod_univ_one]
  show (1 : ℝ) / 2 * 2 + (1 - 1 / 2) * 2 = 2
  norm_num

theorem k8_post : post k8θ (k8γ 0) = 1 / 2 := by
  rw [post, k8_lik, pm, Fin.prod_univ_one]
  show (1 : ℝ) / 2 * 2 / 2 = 1 / 2
  norm_num

/-- with a single row every E-step weight `w` gives the observed level the new value `w/w` -/
theorem k8_newBlock (w : Fin 1 → ℝ) (ph : ℝ) : newBlock k8γ w ph 0 0 = w 0 / w 0 := by
  rw [newBlock_observed _ _ _ _ _ ⟨0, rfl⟩, cnt, den,
    Finset.filter_true_of_mem (p := fun j => k8γ j 0 = some 0) fun _ _ => rfl,
    Finset.filter_true_of_mem (p := fun j => k8γ j 0 ≠ none) fun _ _ => Option.some_ne_none _,
    Fin.sum_univ_one]

theorem k8_lik_step (ph : ℝ) :
    lik (emStep false false false ph k8γ k8n k8θ) (k8γ 0) = 1 := by
  rw [lik, pm, pu, Fin.prod_univ_one, Fin.prod_univ_one]
  show _ * newBlock k8γ (wM k8γ k8n k8θ) ph 0 0 + _ * newBlock k8γ (wU k8γ k8n k8θ) ph 0 0 = 1
  have hM : wM k8γ k8n k8θ 0 ≠ 0 := by
    show (1 : ℝ) * post k8θ (k8γ 0) ≠ 0
    rw [k8_post]
    norm_num
  have hU : wU k8γ k8n k8θ 0 ≠ 0 := by
    show (1 : ℝ) * (1 - post k8θ (k8γ 0)) ≠ 0
    rw [k8_post]
    norm_num
  rw [k8_newBlock, k8_newBlock, div_self hM, div_self hU, mul_one, mul_one, add_sub_cancel]

/-- **The sub-normalisation hypothesis of `loglik_mono` cannot be dropped** (K8): there are
data and parameters meeting every other hypothesis (`0 < lam < 1`, `m`, `u` > 0, positive
counts, a positive placeholder) for which one EM step (nothing fixed) strictly lowers the
observed-data log-likelihood. -/
theorem loglik_mono_needs_subnormalised :
    ∃ (C : ℕ) (L : Fin C → ℕ) (J : Type) (_ : Fintype J) (_ : Nonempty J)
      (γ : J → Pattern C L) (n : J → ℝ) (θ : Params C L) (ph : ℝ),
      0 < θ.lam ∧ θ.lam < 1 ∧ (∀ c l, 0 < θ.m c l) ∧ (∀ c l, 0 < θ.u c l) ∧ (∀ j, 0 < n j) ∧
      0 < ph ∧
      logLik γ n (emStep false false false ph γ n θ) < logLik γ n θ := by
  refine ⟨1, fun _ => 1, Fin 1, inferInstance, inferInstance, k8γ, k8n, k8θ, 1,
    show (0 : ℝ) < 1 / 2 by norm_num, show (1 : ℝ) / 2 < 1 by norm_num, fun _ _ => two_pos,
    fun _ _ => two_pos, fun _ => one_pos, one_pos, ?_⟩
  rw [logLik, logLik, Fin.sum_univ_one, Fin.sum_univ_one, k8_lik_step, k8_lik, Real.log_one]
  exact mul_lt_mul_of_pos_left (Real.log_pos one_lt_two) one_pos

end SplinkVerif.C03L
