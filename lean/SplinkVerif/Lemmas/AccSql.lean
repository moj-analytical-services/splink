import Mathlib.Data.List.Nodup
import Mathlib.Data.List.Perm.Basic
import SplinkVerif.Lemmas.Rel
import SplinkVerif.Lemmas.Accuracy
import SplinkVerif.Model.AccSql
/-!
# The truth-space SQL of `accuracy.py` against `Model/Accuracy.lean`: encodings and the order of the groups

The encodings of the model's tables as SQL rows, and the invariance of the model's truth rows under permutations of
the labelled pairs.

The only place where the SQL and the model differ is the *order* of the groups: `GROUP BY` (`List.eraseDups`) keeps the
first occurrence of a key, the model's `distinct` the last one.  Every later statement is computed exactly on the SQL's
order (`groupedSql`), and the model's later tables are invariant under permutations of the grouped table
(`C15Sql.grouped_with_stats_order_irrelevant`).
-/
namespace SplinkVerif.Lemmas.AccSql
open SplinkVerif SplinkVerif.Rel SplinkVerif.Lemmas.Rel
open SplinkVerif.Accuracy (Scored Cfg PosNeg PosNegAdj Grouped Stats TruthRow adjScore isPos)
open SplinkVerif.Lemmas.Acc (adjRow ind)

theorem sumVals_nil : sumVals [] = Val.null := rfl

/-! ## Encodings of the model's tables in the SQL's column order -/

/-- A row of `lwp_in`: (match_weight rounded to the grid, clerical_match_score, found_by_blocking_rules). -/
def encIn (cfg : Cfg) (x : Scored) : Row :=
  [Val.int (cfg.bucket x.weight), Val.int x.score, Val.bool x.found]

/-- `__splink__labels_with_pos_neg`: (match_weight, clerical_match_score, found_by_blocking_rules, truth_threshold,
clerical_positive, clerical_negative). -/
def row1 (cfg : Cfg) (x : Scored) : Row :=
  [Val.int (cfg.bucket x.weight), Val.int x.score, Val.bool x.found, Val.int (cfg.bucket x.weight),
   Val.int (ind (isPos cfg x)), Val.int (ind (!isPos cfg x))]

/-- `__splink__labels_with_pos_neg_tt_adj`: one more column, truth_threshold_adj. -/
def row2 (cfg : Cfg) (x : Scored) : Row :=
  [Val.int (cfg.bucket x.weight), Val.int x.score, Val.bool x.found, Val.int (cfg.bucket x.weight),
   Val.int (ind (isPos cfg x)), Val.int (ind (!isPos cfg x)), Val.int (adjScore cfg x)]

/-- Columns of a row by position. -/
def cols (is : List Nat) (r : Row) : Row := is.map fun i => r.getD i Val.null

/-- `PosNeg` as (truth_threshold, found_by_blocking_rules, clerical_positive, clerical_negative). -/
def encPosNeg (p : PosNeg) : Row :=
  [Val.int p.truthThreshold, Val.bool p.found, Val.int p.clericalPositive, Val.int p.clericalNegative]

/-- `PosNegAdj` as (truth_threshold_adj, clerical_positive, clerical_negative). -/
def encAdj (p : PosNegAdj) : Row :=
  [Val.int p.truthThresholdAdj, Val.int p.clericalPositive, Val.int p.clericalNegative]

/-- `Grouped` in the column order of `__splink__labels_with_pos_neg_grouped`. -/
def encG (g : Grouped) : Row :=
  [Val.int g.truthThreshold, Val.int g.numRecordsInRow, Val.int g.clericalPositive, Val.int g.clericalNegative]

/-- `Stats` in the column order of `__splink__labels_with_pos_neg_grouped_with_stats`. -/
def encS (s : Stats) : Row :=
  [Val.int s.truthThreshold, Val.int s.cumPosAtOrAbove, Val.int s.cumNegBelow, Val.int s.totalPos,
   Val.int s.totalNeg, Val.int s.totalLabels, Val.int s.numBelow, Val.int s.numAtOrAbove]

/-- `TruthRow` in the column order of `__splink__labels_with_pos_neg_grouped_with_truth_stats`:
(truth_threshold, total_clerical_labels, P, N, FP, TP, FN, TN). -/
def encT (r : TruthRow) : Row :=
  [Val.int r.truthThreshold, Val.int r.total, Val.int r.p, Val.int r.n, Val.int r.fp, Val.int r.tp,
   Val.int r.fn, Val.int r.tn]

theorem encT_inj (a b : TruthRow) (h : encT a = encT b) : a = b := by
  cases a; cases b
  simp only [encT, List.cons.injEq, Val.int.injEq, and_true] at h
  obtain ⟨h1, h2, h3, h4, h5, h6, h7, h8⟩ := h
  subst h1 h2 h3 h4 h5 h6 h7 h8
  rfl

theorem mem_of_encT_mem {rows : List Row} {rs : List TruthRow} (p : rows.Perm (rs.map encT)) {r : TruthRow}
    (h : encT r ∈ rows) : r ∈ rs := by
  obtain ⟨r', hr, he⟩ := List.mem_map.mp (p.mem_iff.mp h)
  exact encT_inj _ _ he ▸ hr

/-! ## The SQL's grouped table and result -/

/-- The grouped table in the order SQL's `GROUP BY` (first occurrences, `List.eraseDups`) produces it.  `groupOf ys k`, the
group of the key `k`, is defined in `Lemmas/Accuracy.lean` beside `Acc.grouped_eq`, which says the same of the model's
table with `distinct` for `eraseDups`. -/
def groupedSql (ys : List PosNegAdj) : List Grouped :=
  ((ys.map (·.truthThresholdAdj)).eraseDups).map (groupOf ys)

/-- The SQL result of the labels-table / not-found-option variant. -/
abbrev sqlRows (cfg : Cfg) (xs : List Scored) : List Row :=
  SplinkVerif.AccSql.truthStats (xs.map (encIn cfg)) (Val.int cfg.thresholdActual) (Val.int cfg.sentinel)

/-! ## About the model alone -/

theorem ind_decide (p : Prop) [Decidable p] : ind (decide p) = if p then 1 else 0 := by
  by_cases h : p <;> simp [ind, h]

theorem ind_not_decide (p : Prop) [Decidable p] : ind (!decide p) = if p then 0 else 1 := by
  by_cases h : p <;> simp [ind, h]

/-- The model's truth rows do not depend on the order of the labelled pairs (up to row order). -/
theorem truthRows_perm (cfg : Cfg) {xs xs' : List Scored} (p : xs.Perm xs') :
    (Accuracy.truthRows cfg xs).Perm (Accuracy.truthRows cfg xs') := by
  open Lemmas.Acc in
  have hS : ∀ f, S f xs = S f xs' := fun f => Lists.sum_perm (p.map f)
  have hr : recountRow cfg xs = recountRow cfg xs' := by
    funext t
    simp only [recountRow, ghosts, hS, p.length_eq]
  rw [truthRows_eq_recount, truthRows_eq_recount, hr]
  refine ((List.perm_ext_iff_of_nodup (distinct_nodup _) (distinct_nodup _)).mpr fun a => ?_).map _
  rw [Acc.mem_distinct, Acc.mem_distinct]
  exact (p.map _).mem_iff

end SplinkVerif.Lemmas.AccSql
