import Mathlib.Data.List.Nodup
import Mathlib.Data.List.Perm.Basic
import Mathlib.Algebra.Order.Field.Rat
import Mathlib.Algebra.Order.Field.Basic
import SplinkVerif.Lemmas.DescSql
/-!
# The regenerated SQL of the comparison-vector distribution, the match-weight histogram and the unlinkables listing (C20)

The pieces of the statements of `Generated/DescSql.lean` (second part), each evaluated once: the expressions of the
comparison-vector distribution on a grouped row (`cvd_row`) and the statements of the unlinkables listing on the encoded
tables of the functional model.  `Properties/C20Sql2.lean` puts them together, with `Rel.listing_enc` (a count listing
over a table of encoded rows is the listing over the model's rows).
-/
namespace SplinkVerif.Lemmas.DescSql2
open SplinkVerif SplinkVerif.Rel SplinkVerif.Lemmas.Rel
open SplinkVerif.Lemmas.Lists (getD_append_add getD_append_at)
open SplinkVerif.Lemmas.DescSql (sum_div_const)

/-! ## `GROUP BY keys` with `count(*)` on any table -/

/-- The key vector of a row. -/
def keyOf (keys : List Expr) (row : Row) : Row := keys.map (·.eval row)

theorem groupRows_countStar (keys : List Expr) (hk : keys ≠ []) (rows : List Row) :
    groupRows keys [Agg.countStar] rows = ((rows.map (keyOf keys)).eraseDups).map fun k =>
      k ++ [Val.int ((rows.filter fun r => keyOf keys r == k).length : Nat)] :=
  groupRows_keys keys hk _ rows

/-! ## Comparison-vector distribution -/

/-- `acc || ',' || g` on values -/
def concatStep (acc g : Val) : Val := Val.concat (Val.concat acc (Val.str ",")) g

/-- the value of `gam_concat` for a gamma vector: `g₁ || ',' || g₂ || …` (NULL as soon as one is NULL; one column: the value itself) -/
def gamConcatV : List Val → Val
  | [] => Val.str ""
  | v :: vs => vs.foldl concatStep v

/-- `case when g = -1 then 0 when g = 0 then -1 else g end` on a value -/
def sumGamTermV (g : Val) : Val := (Gen.DescSql.sumGamTerm (Expr.lit g)).eval []

/-- the value of `sum_gam` for a gamma vector -/
def sumGamV : List Val → Val
  | [] => Val.int 0
  | v :: vs => vs.foldl (fun acc g => Arith.add.eval acc (sumGamTermV g)) (sumGamTermV v)

/-- Both computed columns are left folds over the gamma columns. -/
theorem foldl_eval (row : Row) (F : Expr → Expr → Expr) (Fv : Val → Val → Val)
    (h : ∀ a g, (F a g).eval row = Fv (a.eval row) (g.eval row)) : ∀ (es : List Expr) (e : Expr),
    (es.foldl F e).eval row = (es.map (·.eval row)).foldl Fv (e.eval row)
  | [], _ => rfl
  | g :: es, e => by rw [List.foldl_cons, foldl_eval row F Fv h es, h, List.map_cons, List.foldl_cons]

theorem gamConcat_eval (es : List Expr) (row : Row) :
    (Gen.DescSql.gamConcat es).eval row = gamConcatV (es.map (·.eval row)) := by
  cases es with
  | nil => rfl
  | cons e es => exact foldl_eval row _ concatStep (fun _ _ => rfl) es e

theorem sumGamTerm_eval (g : Expr) (row : Row) :
    (Gen.DescSql.sumGamTerm g).eval row = sumGamTermV (g.eval row) := by
  simp only [Gen.DescSql.sumGamTerm, sumGamTermV, Expr.eval]
  rfl

theorem sumGam_eval (es : List Expr) (row : Row) :
    (Gen.DescSql.sumGam es).eval row = sumGamV (es.map (·.eval row)) := by
  cases es with
  | nil => rfl
  | cons e es =>
    rw [Gen.DescSql.sumGam, List.map_cons, sumGamV, ← sumGamTerm_eval]
    exact foldl_eval row _ (fun acc g => Arith.add.eval acc (sumGamTermV g))
      (fun a g => by rw [Expr.eval, sumGamTerm_eval]) es _

theorem keyCols_eval (k rest : Row) :
    (Gen.DescSql.keyCols k.length).map (·.eval (k ++ rest)) = k :=
  cols_eval k rest

/-- The output expressions of the statement on a grouped row: key vector `k`, its count `c`, the total `t`. -/
theorem cvd_row (k : Row) (c t : Nat) (ht : t ≠ 0) :
    ([Gen.DescSql.gamConcat (Gen.DescSql.keyCols k.length), Gen.DescSql.sumGam (Gen.DescSql.keyCols k.length),
        Expr.col k.length, Expr.arith Arith.div (Expr.toRat (Expr.col k.length)) (Expr.col (k.length + 1))]
        ++ Gen.DescSql.keyCols k.length).map (·.eval (k ++ [Val.int (c : Nat), Val.int (t : Nat)]))
      = [gamConcatV k, sumGamV k, Val.int (c : Nat), Val.rat ((c : Rat) / (t : Rat))] ++ k := by
  rw [List.map_append, keyCols_eval, List.map_cons, List.map_cons, List.map_cons, List.map_cons, List.map_nil,
    gamConcat_eval, sumGam_eval, keyCols_eval]
  simp only [Expr.eval, getD_append_at k _ _ rfl, getD_append_add k _ _ rfl 1, List.getD_cons_zero, List.getD_cons_succ]
  rw [div_eval (x := (c : Rat)) (y := (t : Rat)) rfl (by rw [Val.toRat?, Int.cast_natCast]) (Nat.cast_ne_zero.2 ht)]

theorem keyOf_length (gs : List Expr) (r : Row) : (keyOf gs r).length = gs.length := List.length_map _

/-! ### Gamma vectors of the model `Descriptive.cvd` -/

/-- a gamma vector of the model as SQL values -/
def encVec (g : List Int) : Row := g.map Val.int

theorem encVec_inj (a b : List Int) (h : encVec a = encVec b) : a = b :=
  List.map_injective_iff.mpr (fun _ _ hxy => Val.int.inj hxy) h

theorem sumGamTermV_int (g : Int) : sumGamTermV (Val.int g) = Val.int (Descriptive.sumGamTerm g) := by
  unfold sumGamTermV Gen.DescSql.sumGamTerm Descriptive.sumGamTerm
  by_cases h1 : g = -1
  · subst h1; rfl
  · by_cases h0 : g = 0
    · subst h0; rfl
    · have e1 : Cmp.eq.eval (Val.int g) (Val.int (0 - 1)) = Val.bool false := by
        rw [cmp_eq_int]; simp; omega
      have e0 : Cmp.eq.eval (Val.int g) (Val.int 0) = Val.bool false := by
        rw [cmp_eq_int]; simp [h0]
      simp only [Expr.eval, Arith.eval, e1, e0, h1, h0, if_false]
      rfl

theorem foldl_sumGamV_int : ∀ (vs : List Int) (acc : Int),
    (vs.map Val.int).foldl (fun acc g => Arith.add.eval acc (sumGamTermV g)) (Val.int acc)
      = Val.int (acc + (vs.map Descriptive.sumGamTerm).sum)
  | [], acc => by simp
  | v :: vs, acc => by
    rw [List.map_cons, List.foldl_cons, sumGamTermV_int]
    show (vs.map Val.int).foldl _ (Val.int (acc + Descriptive.sumGamTerm v)) = _
    rw [foldl_sumGamV_int vs, List.map_cons, List.sum_cons, Int.add_assoc]

theorem keyOf_keyCols_enc (n : Nat) (p : List Int) (hp : p.length = n) :
    keyOf (Gen.DescSql.keyCols n) (encVec p) = encVec p := by
  have h := keyCols_eval (encVec p) []
  rw [List.append_nil] at h
  have hl : (encVec p).length = n := by simp [encVec, hp]
  rw [hl] at h
  exact h

theorem keyCols_ne_nil (n : Nat) (hn : 0 < n) : Gen.DescSql.keyCols n ≠ [] := by
  intro h
  have := congrArg List.length h
  simp [Gen.DescSql.keyCols] at this
  omega

/-! ## Match-weight histogram -/

/-- `cast(bw as float)` of a literal: an integer becomes the exact number, everything else stays. -/
def castFloat (v : Val) : Val := (Expr.toRat (Expr.lit v)).eval []


/-! ## Unlinkables -/

open SplinkVerif.Descriptive (PropRow UnlRow maxOver unlProportions)

/-- a rounded probability (`p` units of `1 / scale`) as the exact number the SQL compares with 1 -/
def encP (scale : Nat) (p : Int) : Val := Val.rat ((p : Rat) / (scale : Rat))

/-- a row of the rounded self-link table: (weight in hundredths, probability) -/
def encSelf (scale : Nat) (r : Int × Int) : Row := [Val.int r.1, encP scale r.2]

/-- the grouped row (match_probability, max(match_weight), count(*)) -/
def encG (scale : Nat) (r : PropRow) : Row := [encP scale r.prob, Val.int r.weight, Val.int (r.count : Nat)]

/-- a row of `__splink__df_unlinkables_proportions`: (match_weight, match_probability, prop) -/
def encProp (scale : Nat) (r : PropRow) : Row :=
  [Val.int r.weight, encP scale r.prob, Val.rat ((r.count : Rat) / (r.total : Rat))]

/-- a row of the result: (match_weight, match_probability, prop, cum_prop) -/
def encUnl (scale : Nat) (r : UnlRow) : Row :=
  [Val.int r.weight, encP scale r.prob, Val.rat ((r.count : Rat) / (r.total : Rat)),
   Val.rat ((r.cumCount : Rat) / (r.total : Rat))]

theorem encP_inj (scale : Nat) (hs : 0 < scale) (a b : Int) (h : encP scale a = encP scale b) : a = b :=
  Rat.intCast_inj.1 ((div_left_inj' (Rat.natCast_pos.2 hs).ne').mp (Val.rat.inj h))

theorem div_scale_le (scale : Nat) (hs : 0 < scale) (a b : Int) :
    ((a : Rat) / (scale : Rat) ≤ (b : Rat) / (scale : Rat)) ↔ a ≤ b := by
  rw [div_le_div_iff_of_pos_right (Rat.natCast_pos.2 hs)]
  exact Rat.intCast_le_intCast

/-- `match_probability < 1` on an encoded probability -/
theorem lt_one_eval (scale : Nat) (hs : 0 < scale) (p : Int) :
    Cmp.lt.eval (encP scale p) (Val.rat 1) = Val.bool (decide (p < (scale : Int))) := by
  have h : ((p : Rat) / (scale : Rat) < 1) ↔ p < (scale : Int) := by
    rw [div_lt_one (Rat.natCast_pos.2 hs), ← Int.cast_natCast]
    exact Rat.intCast_lt_intCast
  rw [encP, cmp_lt_rat, decide_eq_decide.2 h]

/-- `order by match_probability`: `≤` on encoded probabilities -/
theorem le_eval (scale : Nat) (hs : 0 < scale) (a b : Int) :
    Cmp.le.eval (encP scale a) (encP scale b) = Val.bool (decide (a ≤ b)) := by
  rw [encP, encP, cmp_le_rat, decide_eq_decide.2 (div_scale_le scale hs a b)]

theorem maxVals_int : ∀ l : List Int, l ≠ [] → maxVals (l.map Val.int) = Val.int (maxOver l)
  | [], h => absurd rfl h
  | [a], _ => rfl
  | a :: b :: l, _ => by
    rw [List.map_cons, maxVals_cons, maxVals_int (b :: l) (List.cons_ne_nil _ _), maxStep_int_int,
      Lemmas.Desc.maxOver_cons]

/-- `select match_probability, max(match_weight), count(*) from round_self_link group by match_probability` -/
theorem unlGroup_eval (scale : Nat) (hs : 0 < scale) (rows : List (Int × Int)) :
    groupRows [Expr.col 1] [Agg.max (Expr.col 0), Agg.countStar] (rows.map (encSelf scale))
      = (unlProportions rows).map (encG scale) := by
  rw [groupRows_map [Expr.col 1] (List.cons_ne_nil _ _) _ (encSelf scale) (·.2) (fun p => [encP scale p])
    (fun a b h => encP_inj scale hs a b (List.singleton_inj.1 h)) (fun _ => rfl), unlProportions, List.map_map]
  apply List.map_congr_left
  intro p hp
  obtain ⟨x, hx, rfl⟩ := List.mem_map.1 (List.mem_eraseDups.1 hp)
  have hne : ((rows.filter fun r => r.2 == x.2).map (·.1)) ≠ [] :=
    List.ne_nil_of_mem (List.mem_map_of_mem (List.mem_filter.2 ⟨hx, beq_self_eq_true _⟩))
  have hmax : (Agg.max (Expr.col 0)).eval ((rows.filter fun r => r.2 == x.2).map (encSelf scale))
      = Val.int (maxOver ((rows.filter fun r => r.2 == x.2).map (·.1))) := by
    rw [← maxVals_int _ hne, Agg.eval, List.map_map, List.map_map]
    rfl
  rw [Function.comp, encG, List.map_cons, List.map_cons, List.map_nil, hmax, Agg.eval, List.length_map]
  rfl

theorem unlProportions_total (rows : List (Int × Int)) (r : PropRow) (h : r ∈ unlProportions rows) :
    r.total = rows.length ∧ rows.length ≠ 0 := by
  obtain ⟨x, hx, rfl⟩ := (Lemmas.Desc.mem_unlProportions rows r).1 h
  exact ⟨rfl, (List.length_pos_of_mem hx).ne'⟩

/-- **Statement 2** on the encoded rounded table: `Descriptive.unlProportions`, row for row. -/
theorem unlProportions_eval (scale : Nat) (hs : 0 < scale) (rows : List (Int × Int)) (db : Db)
    (hin : db "__splink__df_round_self_link" = rows.map (encSelf scale)) :
    Gen.DescSql.unlProportions.eval db = (unlProportions rows).map (encProp scale) := by
  unfold Gen.DescSql.unlProportions
  rw [eval_project, eval_window, eval_groupBy, eval_table, hin, unlGroup_eval scale hs, List.map_map, List.map_map]
  apply List.map_congr_left
  intro r hr
  obtain ⟨ht, hpos⟩ := unlProportions_total rows r hr
  -- `over ()`: one partition, so the window total is `sum(count(*))` over all groups, the number of rows
  have hsum : (Agg.sum (Expr.col 2)).eval (((unlProportions rows).map (encG scale)).filter
        fun x => ([] : List Expr).map (·.eval x) == ([] : List Expr).map (·.eval (encG scale r)))
      = Val.int ((rows.length : Nat) : Int) := by
    have hall : ∀ L : List Row, L.filter (fun x => ([] : List Expr).map (·.eval x)
        == ([] : List Expr).map (·.eval (encG scale r))) = L := fun L => List.filter_eq_self.2 fun _ _ => rfl
    rw [hall,
      aggSum_int (e := Expr.col 2) (enc := encG scale) (f := fun r => ((r.count : Nat) : Int)) (fun _ => rfl),
      if_neg (List.ne_nil_of_mem hr),
      Lists.sum_map_natCast, Lemmas.Desc.sum_counts]
  rw [Function.comp, Function.comp, hsum, encProp, ht]
  simp only [List.map_cons, List.map_nil, Expr.eval, encG, List.cons_append, List.nil_append, List.getD_cons_succ,
    List.getD_cons_zero]
  rw [div_eval (x := (r.count : Rat)) (y := (rows.length : Rat)) (by rw [Val.toRat?, Int.cast_natCast]) rfl
    (Nat.cast_ne_zero.2 hpos)]

theorem holds_lt_one (scale : Nat) (hs : 0 < scale) (r : PropRow) :
    (Expr.cmp Cmp.lt (Expr.col 1) (Expr.toRat (Expr.lit (Val.int 1)))).holds (encProp scale r)
      = decide (r.prob < (scale : Int)) := by
  have h : (Expr.cmp Cmp.lt (Expr.col 1) (Expr.toRat (Expr.lit (Val.int 1)))).eval (encProp scale r)
      = Cmp.lt.eval (encP scale r.prob) (Val.rat 1) := by
    simp only [Expr.eval, encProp, List.getD_cons_succ, List.getD_cons_zero, Int.cast_one]
  rw [Expr.holds, h, lt_one_eval scale hs, bool_beq_true]

/-- **Statement 3** on the encoded proportions: `Descriptive.unlinkables`, row for row (`WHERE` before the window; the window sums the
proportions of the listed probabilities `≤` the current one). -/
theorem unlCumulative_eval (scale : Nat) (hs : 0 < scale) (rows : List (Int × Int)) (db : Db)
    (hin : db "__splink__df_unlinkables_proportions" = (unlProportions rows).map (encProp scale)) :
    Gen.DescSql.unlCumulative.eval db = (Descriptive.unlinkables (scale : Int) rows).map (encUnl scale) := by
  unfold Gen.DescSql.unlCumulative
  rw [eval_project, eval_windowCum, eval_filter, eval_table, hin,
    Lists.filter_map_congr (encProp scale) _ _ (holds_lt_one scale hs), Descriptive.unlinkables]
  generalize hK : ((unlProportions rows).filter fun r => decide (r.prob < (scale : Int))) = K
  have hKmem : ∀ r ∈ K, r.total = rows.length := fun r hr =>
    (unlProportions_total rows r (List.mem_filter.mp (hK ▸ hr)).1).1
  rw [List.map_map, List.map_map, List.map_map]
  apply List.map_congr_left
  intro a ha
  have hfil : (K.map (encProp scale)).filter
        (fun x => Cmp.le.eval ((Expr.col 1).eval x) ((Expr.col 1).eval (encProp scale a)) == Val.bool true)
      = (K.filter fun b => decide (b.prob ≤ a.prob)).map (encProp scale) :=
    Lists.filter_map_congr (encProp scale) _ (fun b => decide (b.prob ≤ a.prob)) (fun b =>
      (congrArg (· == Val.bool true) (le_eval scale hs b.prob a.prob)).trans (bool_beq_true _)) K
  have hne : (K.filter fun b => decide (b.prob ≤ a.prob)) ≠ [] :=
    List.ne_nil_of_mem (List.mem_filter.mpr ⟨ha, decide_eq_true (Int.le_refl _)⟩)
  have hden : ∀ r ∈ K.filter fun b => decide (b.prob ≤ a.prob),
      (r.count : Rat) / (r.total : Rat) = (r.count : Rat) / (rows.length : Rat) :=
    fun r hr => by rw [hKmem r (List.mem_filter.mp hr).1]
  have hsum : (Agg.sum (Expr.col 2)).eval ((K.map (encProp scale)).filter
        (fun x => Cmp.le.eval ((Expr.col 1).eval x) ((Expr.col 1).eval (encProp scale a)) == Val.bool true))
      = Val.rat (((((K.filter fun b => decide (b.prob ≤ a.prob)).map (·.count)).sum : Nat) : Rat) / (a.total : Rat)) := by
    rw [hfil, aggSum_rat (e := Expr.col 2) (enc := encProp scale) (f := fun r => (r.count : Rat) / (r.total : Rat)) (fun _ => rfl),
      if_neg hne,
      List.map_congr_left hden, sum_div_const, hKmem a ha]
  simp only [Function.comp, Bool.false_eq_true, if_false]
  rw [hsum]
  rfl

end SplinkVerif.Lemmas.DescSql2
