import Mathlib.Data.List.Nodup
import Std.Data.String.ToNat
import SplinkVerif.Lemmas.Rel
import SplinkVerif.Lemmas.Blocking
import SplinkVerif.Model.BlockSql
/-!
# Semantics of the regenerated blocking SQL (`Generated/BlockSql.lean` under `Model/BlockSql.lean`)

1. *Form*: every regenerated per-rule statement is `shape …` — projection of `(mk, id_l, id_r)` over the rows of the inner
   join on the rule that pass the link type's `WHERE` clause and the exclusion of the preceding rules (`first_eq`,
   `later_eq`, by `rfl`: any change of the emitted SQL breaks them).
2. *Row level*: on rows of the declared width the identity expressions compute `rowId`, the `WHERE` clause computes
   `admissible`, and `AND NOT (coalesce(p₀,false) OR …)` keeps a row iff no preceding rule is TRUE on it (`stmt_eval`).
3. *Pipeline*: `block` is `specFrom` on the two input tables, the concatenation over the rules (`block_eq_spec`).  What is
   proved about the result — membership, first-rule attribution, multiplicity, orientation — is proved of `specFrom`,
   for any two lists of rows and any rule list.
4. *Refinement*: for the self-joining link types `specFrom` lists the rows of the functional model `Blocking.block`
   (`specFrom_eq_model`), in the same order.
-/
namespace SplinkVerif.Lemmas.BlockSql
open SplinkVerif SplinkVerif.Rel SplinkVerif.BlockSql
open SplinkVerif.Lemmas.Rel (holds_and holds_not_of_bool or3_bool cmp_lt_asymm)
open SplinkVerif.Lemmas.Lists (getD_append_lt getD_append_add range_getD)

/-! ## 1. Form of the regenerated statements -/

/-- The identity of a record whose columns start at `off` in the joined row: `unique_id`, or
`source_dataset || '-__-' || unique_id`. -/
def idE (off : Nat) : LinkType → Expr
  | .dedupeOnly => Expr.col off
  | _ => Expr.concat (Expr.concat (Expr.col off) (Expr.lit (Val.str "-__-"))) (Expr.col (off + 1))

/-- `_sql_gen_where_condition` -/
def whE (w : Nat) : LinkType → Expr
  | .dedupeOnly => Expr.cmp .lt (idE 0 .dedupeOnly) (idE w .dedupeOnly)
  | .linkAndDedupe => Expr.cmp .lt (idE 0 .linkAndDedupe) (idE w .linkAndDedupe)
  | .linkOnly => Expr.and (Expr.cmp .lt (idE 0 .linkOnly) (idE w .linkOnly)) (Expr.cmp .ne (Expr.col 0) (Expr.col w))
  | .twoDatasetLinkOnly => Expr.cmp .eq (Expr.lit (Val.int 1)) (Expr.lit (Val.int 1))

def condE (lt : LinkType) (w : Nat) : Option Expr → Expr
  | none => whE w lt
  | some e => Expr.and (whE w lt) (Expr.not e)

/-- `BlockingRule.create_blocked_pairs_sql` -/
def shape (lt : LinkType) (w : Nat) (mk : Val) (rule : Expr) (excl : Option Expr) : Rel :=
  Rel.project [Expr.lit mk, idE 0 lt, idE w lt]
    (Rel.filter (condE lt w excl)
      (Rel.join false rule (Rel.table (tables lt).1) (Rel.table (tables lt).2) w))

theorem first_eq (lt : LinkType) (w : Nat) (mk : Val) (rule : Expr) :
    first lt w mk rule = shape lt w mk rule none := by
  cases lt <;> rfl

theorem later_eq (lt : LinkType) (w : Nat) (mk : Val) (rule e : Expr) :
    later lt w mk rule e = shape lt w mk rule (some e) := by
  cases lt <;> rfl

theorem noRulesRule_holds (row : Row) : Gen.BlockSql.noRulesRule.holds row = true := rfl

theorem tables_selfJoin {lt : LinkType} (h : lt ≠ .twoDatasetLinkOnly) : (tables lt).2 = (tables lt).1 := by
  cases lt <;> first | rfl | exact absurd rfl h

/-! ## 2. Row level -/

theorem idE_eval {lt : LinkType} {off : Nat} {row r : Row} (h0 : row.getD off .null = r.getD 0 .null)
    (h1 : 2 ≤ idWidth lt → row.getD (off + 1) .null = r.getD 1 .null) :
    (idE off lt).eval row = rowId lt r := by
  cases lt
  · exact h0
  all_goals
    show Val.concat (Val.concat (row.getD off .null) _) (row.getD (off + 1) .null) = _
    rw [h0, h1 (Nat.le_refl 2)]
    rfl

theorem idL_eval (lt : LinkType) (ra rb : Row) (h : idWidth lt ≤ ra.length) :
    (idE 0 lt).eval (ra ++ rb) = rowId lt ra :=
  idE_eval (getD_append_lt ra rb .null (Nat.lt_of_lt_of_le (by cases lt <;> decide) h))
    fun h2 => getD_append_lt ra rb .null (Nat.lt_of_lt_of_le h2 h)

theorem idR_eval (lt : LinkType) (ra rb : Row) : (idE ra.length lt).eval (ra ++ rb) = rowId lt rb :=
  idE_eval (getD_append_add ra rb .null rfl 0) fun _ => getD_append_add ra rb .null rfl 1

theorem whE_holds (lt : LinkType) (ra rb : Row) (h : idWidth lt ≤ ra.length) :
    (whE ra.length lt).holds (ra ++ rb) = admissible lt ra rb := by
  have hlt : (Expr.cmp .lt (idE 0 lt) (idE ra.length lt)).holds (ra ++ rb)
      = (Cmp.lt.eval (rowId lt ra) (rowId lt rb) == .bool true) := by
    rw [Expr.holds, Expr.eval, idL_eval lt ra rb h, idR_eval]
  cases lt
  · exact hlt
  · have h0 : (ra ++ rb).getD 0 .null = ra.getD 0 .null := getD_append_lt ra rb .null (Nat.lt_of_lt_of_le Nat.zero_lt_two h)
    have hw : (ra ++ rb).getD ra.length .null = rb.getD 0 .null := getD_append_add ra rb .null rfl 0
    rw [whE, holds_and, hlt, Expr.holds, Expr.eval, Expr.eval, Expr.eval, h0, hw]
    rfl
  · exact hlt
  · rfl

/-! ### Three-valued results -/

theorem isB3_cmp (c : Cmp) (a b : Val) : isB3 (c.eval a b) = true := by
  unfold Cmp.eval
  split <;> rfl

theorem isB3_and3 (a b : Val) : isB3 (and3 a b) = true := by
  unfold and3
  split <;> rfl

theorem isB3_or3 (a b : Val) : isB3 (or3 a b) = true := by
  unfold or3
  split <;> rfl

theorem isB3_not3 (a : Val) : isB3 (not3 a) = true := by
  unfold not3
  split <;> rfl

/-- Every rule evaluates to TRUE, FALSE or NULL on every pair of rows of the two tables (the engines' type check). -/
def RulesB3 (rules : List Expr) (L R : List Row) : Prop :=
  ∀ p ∈ rules, ∀ ra ∈ L, ∀ rb ∈ R, isB3 (p.eval (ra ++ rb)) = true

/-- A syntactic sufficient condition for being three-valued on every row: the expression is a comparison, `IS NULL`, a
boolean / NULL literal, or `AND` / `OR` / `NOT` / `coalesce` of such (every rule of the harness's grammar is). -/
def isPred : Expr → Bool
  | .cmp _ _ _ => true
  | .isNull _ => true
  | .lit (.bool _) => true
  | .lit .null => true
  | .and a b => isPred a && isPred b
  | .or a b => isPred a && isPred b
  | .not a => isPred a
  | .coalesce a b => isPred a && isPred b
  | _ => false

/-- Comparisons, `IS NULL`, `AND`, `OR`, `NOT` are three-valued whatever their operands are; `coalesce` is if both its
operands are. -/
theorem isB3_of_isPred (e : Expr) (h : isPred e = true) (row : Row) : isB3 (e.eval row) = true := by
  induction e with
  | cmp c a b => exact isB3_cmp ..
  | and a b => exact isB3_and3 ..
  | or a b => exact isB3_or3 ..
  | not a => exact isB3_not3 ..
  | isNull a => rfl
  | lit v => cases v <;> first | rfl | cases h
  | coalesce a b iha ihb =>
    have h : isPred a = true ∧ isPred b = true := Bool.and_eq_true _ _ ▸ h
    have ha := iha h.1
    rw [Expr.eval]
    generalize a.eval row = va at ha ⊢
    cases va <;> first | exact ihb h.2 | exact ha
  | _ => cases h

/-! ### The exclusion of the preceding rules -/

theorem exclOne_eval (p : Expr) (row : Row) (h : isB3 (p.eval row) = true) :
    (Gen.BlockSql.exclOne p).eval row = .bool (p.holds row) := by
  simp only [Gen.BlockSql.exclOne, Expr.eval, Expr.holds]
  generalize p.eval row = v at h ⊢
  cases v <;> first | rfl | (rename_i b; cases b <;> rfl) | cases h

theorem foldl_excl_eval (row : Row) (ps : List Expr) :
    ∀ (acc : Expr) (b : Bool), acc.eval row = .bool b → (∀ p ∈ ps, isB3 (p.eval row) = true) →
      (ps.foldl (fun acc q => Expr.or acc (Gen.BlockSql.exclOne q)) acc).eval row
        = .bool (b || ps.any fun p => p.holds row) := by
  induction ps with
  | nil =>
    intro acc b h _
    rw [List.foldl_nil, h, List.any_nil, Bool.or_false]
  | cons q qs ih =>
    intro acc b h hq
    have hstep : (Expr.or acc (Gen.BlockSql.exclOne q)).eval row = .bool (b || q.holds row) := by
      rw [Expr.eval, h, exclOne_eval q row (hq q List.mem_cons_self), or3_bool]
    rw [List.foldl_cons, ih _ _ hstep (fun p hp => hq p (List.mem_cons_of_mem _ hp)), List.any_cons, Bool.or_assoc]

theorem exclAll_eval (row : Row) (p : Expr) (ps : List Expr) (hB : ∀ q ∈ p :: ps, isB3 (q.eval row) = true) :
    ∃ e, exclAll (p :: ps) = some e ∧ e.eval row = .bool ((p :: ps).any fun q => q.holds row) :=
  ⟨_, rfl, foldl_excl_eval row ps _ _ (exclOne_eval p row (hB p List.mem_cons_self))
    (fun q hq => hB q (List.mem_cons_of_mem _ hq))⟩

theorem cond_holds (lt : LinkType) (pre : List Expr) (ra rb : Row) (h : idWidth lt ≤ ra.length)
    (hB : ∀ p ∈ pre, isB3 (p.eval (ra ++ rb)) = true) :
    (condE lt ra.length (exclAll pre)).holds (ra ++ rb)
      = (admissible lt ra rb && !(pre.any fun p => p.holds (ra ++ rb))) := by
  cases pre with
  | nil => rw [exclAll, condE, whE_holds lt ra rb h, List.any_nil, Bool.not_false, Bool.and_true]
  | cons p ps =>
    obtain ⟨e, he, hev⟩ := exclAll_eval (ra ++ rb) p ps hB
    rw [he, condE, holds_and, whE_holds lt ra rb h, holds_not_of_bool hev]

/-! ### One statement -/

/-- Rule `rule` with preceding rules `pre` selects the ordered pair `(ra, rb)`. -/
def sel (lt : LinkType) (pre : List Expr) (rule : Expr) (ra rb : Row) : Bool :=
  rule.holds (ra ++ rb) && admissible lt ra rb && !(pre.any fun p => p.holds (ra ++ rb))

/-- The rows one rule contributes, in join order. -/
def pairsOf (lt : LinkType) (L R : List Row) (pre : List Expr) (rule : Expr) : List Row :=
  L.flatMap fun ra => (R.filter (sel lt pre rule ra)).map fun rb => [mkVal pre.length, rowId lt ra, rowId lt rb]

theorem stmt_eq_shape (lt : LinkType) (w : Nat) (pre : List Expr) (rule : Expr) :
    stmt lt w pre rule = shape lt w (mkVal pre.length) rule (exclAll pre) := by
  unfold stmt
  cases exclAll pre with
  | none => exact first_eq ..
  | some e => exact later_eq ..

/-- The inner join `L ⋈ R ON on`, as `joinRows` unfolds, then `WHERE c` and `SELECT proj`: one pass over the pairs. -/
theorem join_filter_map (L R : List Row) (on c : Row → Bool) (proj : Row → Row) :
    ((L.flatMap fun ra => (R.filter fun x => on (ra ++ x)).map (ra ++ ·)).filter c).map proj
      = L.flatMap fun ra => (R.filter fun rb => on (ra ++ rb) && c (ra ++ rb)).map fun rb => proj (ra ++ rb) := by
  rw [List.filter_flatMap, List.map_flatMap]
  apply List.flatMap_congr
  intro ra _
  rw [List.filter_map, List.map_map, List.filter_filter]
  congr 1
  apply List.filter_congr
  intro x _
  exact Bool.and_comm ..

theorem flatMap_filter_map_congr {α β γ : Type} (L : List α) (R : List β) (p p' : α → β → Bool) (f f' : α → β → γ)
    (hp : ∀ a ∈ L, ∀ b ∈ R, p a b = p' a b) (hf : ∀ a ∈ L, ∀ b ∈ R, p' a b = true → f a b = f' a b) :
    (L.flatMap fun a => (R.filter (p a)).map (f a)) = L.flatMap fun a => (R.filter (p' a)).map (f' a) := by
  apply List.flatMap_congr
  intro a ha
  rw [List.filter_congr (fun b hb => hp a ha b hb)]
  apply List.map_congr_left
  intro b hb
  exact hf a ha b (List.mem_filter.1 hb).1 (List.mem_filter.1 hb).2

theorem stmt_eval (lt : LinkType) (w : Nat) (db : Db) (pre : List Expr) (rule : Expr)
    (hw : idWidth lt ≤ w) (hL : ∀ ra ∈ db (tables lt).1, ra.length = w)
    (hB : RulesB3 pre (db (tables lt).1) (db (tables lt).2)) :
    (stmt lt w pre rule).eval db = pairsOf lt (db (tables lt).1) (db (tables lt).2) pre rule := by
  rw [stmt_eq_shape]
  simp only [shape, Lemmas.Rel.eval_project, Lemmas.Rel.eval_filter, Lemmas.Rel.eval_join,
    Lemmas.Rel.eval_table, Lemmas.Rel.joinRows, Bool.false_and, Bool.false_eq_true, if_false]
  rw [join_filter_map]
  unfold pairsOf
  apply flatMap_filter_map_congr
  · intro ra hra rb hrb
    have hlen := hL ra hra
    have hc := cond_holds lt pre ra rb (by omega) (fun p hp => hB p hp ra hra rb hrb)
    rw [hlen] at hc
    simp only [sel, hc, Bool.and_assoc]
  · intro ra hra rb _ _
    have hlen := hL ra hra
    have h1 := idL_eval lt ra rb (by omega)
    have h2 := idR_eval lt ra rb
    rw [hlen] at h2
    simp only [List.map, Expr.eval, h1, h2]

/-! ## 3. The pipeline -/

theorem stmtsFrom_ne_nil (lt : LinkType) (w : Nat) (pre rules : List Expr) (h : rules ≠ []) :
    stmtsFrom lt w pre rules ≠ [] := by
  cases rules with
  | nil => exact absurd rfl h
  | cons r rest => exact List.cons_ne_nil _ _

theorem block_eq_flatMap (lt : LinkType) (w : Nat) (db : Db) (rules : List Expr) :
    block lt w db rules = (stmtsFrom lt w [] (rulesOrDefault rules)).flatMap (·.eval db) := by
  unfold block blockRel
  cases h : stmtsFrom lt w [] (rulesOrDefault rules) with
  | nil => simp [unionAll]
  | cons s ss => simp [unionAll, Lemmas.Rel.foldl_union_eval]

/-- The rows of the whole statement, rule by rule. -/
def specFrom (lt : LinkType) (L R : List Row) : List Expr → List Expr → List Row
  | _, [] => []
  | pre, r :: rest => pairsOf lt L R pre r ++ specFrom lt L R (pre ++ [r]) rest

theorem stmtsFrom_eval (lt : LinkType) (w : Nat) (db : Db)
    (hw : idWidth lt ≤ w) (hL : ∀ ra ∈ db (tables lt).1, ra.length = w) :
    ∀ (rules pre : List Expr), RulesB3 (pre ++ rules) (db (tables lt).1) (db (tables lt).2) →
      (stmtsFrom lt w pre rules).flatMap (·.eval db)
        = specFrom lt (db (tables lt).1) (db (tables lt).2) pre rules := by
  intro rules
  induction rules with
  | nil =>
    intro pre _
    simp [stmtsFrom, specFrom]
  | cons r rest ih =>
    intro pre hB
    simp only [stmtsFrom, specFrom, List.flatMap_cons]
    rw [stmt_eval lt w db pre r hw hL (fun p hp => hB p (by simp [hp]))]
    rw [ih (pre ++ [r]) (by simpa using hB)]

theorem rulesB3_default {rules : List Expr} {L R : List Row} (h : RulesB3 rules L R) :
    RulesB3 (rulesOrDefault rules) L R := by
  unfold rulesOrDefault
  split
  · intro p hp ra _ rb _
    rw [List.mem_singleton] at hp
    subst hp
    exact isB3_cmp ..
  · exact h

theorem block_eq_spec (lt : LinkType) (w : Nat) (db : Db) (rules : List Expr)
    (hw : idWidth lt ≤ w) (hL : ∀ ra ∈ db (tables lt).1, ra.length = w)
    (hB : RulesB3 rules (db (tables lt).1) (db (tables lt).2)) :
    block lt w db rules = specFrom lt (db (tables lt).1) (db (tables lt).2) [] (rulesOrDefault rules) := by
  rw [block_eq_flatMap, stmtsFrom_eval lt w db hw hL (rulesOrDefault rules) [] (rulesB3_default hB)]

theorem rulesOrDefault_of_ne {rules : List Expr} (h : rules ≠ []) : rulesOrDefault rules = rules := by
  cases rules with
  | nil => exact absurd rfl h
  | cons _ _ => rfl

/-! ### Membership -/

theorem mem_pairsOf {lt : LinkType} {L R : List Row} {pre : List Expr} {rule : Expr} {row : Row} :
    row ∈ pairsOf lt L R pre rule ↔
      ∃ ra ∈ L, ∃ rb ∈ R, sel lt pre rule ra rb = true ∧ row = [mkVal pre.length, rowId lt ra, rowId lt rb] := by
  simp only [pairsOf, List.mem_flatMap, List.mem_map, List.mem_filter]
  constructor
  · rintro ⟨ra, hra, rb, ⟨hrb, hs⟩, rfl⟩
    exact ⟨ra, hra, rb, hrb, hs, rfl⟩
  · rintro ⟨ra, hra, rb, hrb, hs, rfl⟩
    exact ⟨ra, hra, rb, ⟨hrb, hs⟩, rfl⟩

theorem sel_iff {lt : LinkType} {pre : List Expr} {rule : Expr} {ra rb : Row} :
    sel lt pre rule ra rb = true ↔
      rule.holds (ra ++ rb) = true ∧ admissible lt ra rb = true ∧ ∀ p ∈ pre, p.holds (ra ++ rb) = false := by
  simp [sel, and_assoc]

/-- Rule `i` of the list is TRUE on the row and no earlier rule is (FALSE and NULL both count as not TRUE):
`Lists.FirstIdx (·.holds row) rules i`, written out. -/
def FirstAt (rules : List Expr) (i : Nat) (row : Row) : Prop :=
  (∃ e, rules[i]? = some e ∧ e.holds row = true) ∧ ∀ j, j < i → ∀ q, rules[j]? = some q → q.holds row = false

theorem firstAt_zero (r : Expr) (rest : List Expr) (row : Row) :
    FirstAt (r :: rest) 0 row ↔ r.holds row = true := Lists.firstIdx_zero _ r rest

theorem firstAt_succ (r : Expr) (rest : List Expr) (i : Nat) (row : Row) :
    FirstAt (r :: rest) (i + 1) row ↔ r.holds row = false ∧ FirstAt rest i row := Lists.firstIdx_succ _ r rest i

theorem firstAt_default_nil (i : Nat) (row : Row) : FirstAt (rulesOrDefault []) i row ↔ i = 0 :=
  Lists.firstIdx_singleton (p := fun e : Expr => e.holds row) (noRulesRule_holds row) i

theorem mem_specFrom (lt : LinkType) (L R : List Row) :
    ∀ (rules pre : List Expr) (row : Row), row ∈ specFrom lt L R pre rules ↔
      ∃ i, ∃ ra ∈ L, ∃ rb ∈ R, row = [mkVal (pre.length + i), rowId lt ra, rowId lt rb] ∧
        admissible lt ra rb = true ∧ (∀ p ∈ pre, p.holds (ra ++ rb) = false) ∧ FirstAt rules i (ra ++ rb) := by
  intro rules
  induction rules with
  | nil =>
    exact fun pre row => ⟨fun h => (nomatch h), fun ⟨i, _, _, _, _, _, _, _, h⟩ => absurd h (Lists.not_firstIdx_nil _ i)⟩
  | cons r rest ih =>
    intro pre row
    have hlen : ∀ i, (pre ++ [r]).length + i = pre.length + (i + 1) := fun i => by
      rw [List.length_append, List.length_singleton, Nat.add_assoc, Nat.add_comm 1 i]
    rw [specFrom, List.mem_append, mem_pairsOf, ih]
    -- under the binders for the two records: key `pre.length` is this rule's join, the later keys are the rest
    refine (or_congr ?_ (exists_congr fun i => ?_)).trans Nat.or_exists_add_one
    all_goals refine exists_congr fun ra => and_congr_right fun _ => exists_congr fun rb => and_congr_right fun _ => ?_
    · rw [sel_iff, firstAt_zero, Nat.add_zero]
      exact ⟨fun ⟨⟨hr, hadm, hpre⟩, e⟩ => ⟨e, hadm, hpre, hr⟩, fun ⟨e, hadm, hpre, hr⟩ => ⟨⟨hr, hadm, hpre⟩, e⟩⟩
    · rw [hlen, firstAt_succ, List.forall_mem_append, List.forall_mem_singleton, and_assoc]

theorem mem_specFrom_nil (lt : LinkType) (L R : List Row) (rules : List Expr) (row : Row) :
    row ∈ specFrom lt L R [] rules ↔
      ∃ i, ∃ ra ∈ L, ∃ rb ∈ R, row = [mkVal i, rowId lt ra, rowId lt rb] ∧
        admissible lt ra rb = true ∧ FirstAt rules i (ra ++ rb) := by
  simp only [mem_specFrom, List.length_nil, Nat.zero_add, List.not_mem_nil, false_implies, implies_true, true_and]

theorem mkVal_inj {i j : Nat} (h : mkVal i = mkVal j) : i = j :=
  Nat.repr_inj.mp (Val.str.inj h)

theorem mem_specFrom_key (lt : LinkType) (L R : List Row) (rules : List Expr) (k : Nat) (a b : Val) :
    [mkVal k, a, b] ∈ specFrom lt L R [] rules ↔
      ∃ ra ∈ L, ∃ rb ∈ R, rowId lt ra = a ∧ rowId lt rb = b ∧
        admissible lt ra rb = true ∧ FirstAt rules k (ra ++ rb) := by
  rw [mem_specFrom_nil]
  constructor
  · rintro ⟨i, ra, hra, rb, hrb, heq, hadm, hf⟩
    injection heq with hk heq
    injection heq with ha heq
    injection heq with hb
    cases mkVal_inj hk
    exact ⟨ra, hra, rb, hrb, ha.symm, hb.symm, hadm, hf⟩
  · rintro ⟨ra, hra, rb, hrb, rfl, rfl, hadm, hf⟩
    exact ⟨k, ra, hra, rb, hrb, rfl, hadm, hf⟩

/-! ### Multiplicity -/

/-- The identity pair of an emitted row. -/
def idPair (row : Row) : List Val := row.drop 1

theorem nodup_idPairs_pairsOf (lt : LinkType) (L R : List Row) (pre : List Expr) (rule : Expr)
    (hLid : (L.map (rowId lt)).Nodup) (hRid : (R.map (rowId lt)).Nodup) :
    ((pairsOf lt L R pre rule).map idPair).Nodup := by
  have h : (pairsOf lt L R pre rule).map idPair
      = L.flatMap fun ra => (R.filter (sel lt pre rule ra)).map fun rb => [rowId lt ra, rowId lt rb] := by
    simp only [pairsOf, List.map_flatMap, List.map_map]
    rfl
  rw [h]
  refine Lists.nodup_filterJoin L R _ _ (List.Nodup.of_map _ hLid) (List.Nodup.of_map _ hRid) ?_
  intro a ha b hb a' ha' b' hb' e
  injection e with e1 e
  injection e with e2
  exact ⟨List.inj_on_of_nodup_map hLid ha ha' e1, List.inj_on_of_nodup_map hRid hb hb' e2⟩

theorem nodup_idPairs_specFrom (lt : LinkType) (L R : List Row)
    (hLid : (L.map (rowId lt)).Nodup) (hRid : (R.map (rowId lt)).Nodup) :
    ∀ (rules pre : List Expr), ((specFrom lt L R pre rules).map idPair).Nodup := by
  intro rules
  induction rules with
  | nil =>
    intro pre
    simp [specFrom]
  | cons r rest ih =>
    intro pre
    simp only [specFrom, List.map_append]
    rw [List.nodup_append]
    refine ⟨nodup_idPairs_pairsOf lt L R pre r hLid hRid, ih _, ?_⟩
    intro x hx y hy hxy
    subst hxy
    rw [List.mem_map] at hx hy
    obtain ⟨row1, h1, rfl⟩ := hx
    obtain ⟨row2, h2, h12⟩ := hy
    rw [mem_pairsOf] at h1
    rw [mem_specFrom] at h2
    obtain ⟨ra, hra, rb, hrb, hsel, rfl⟩ := h1
    obtain ⟨i, ra', hra', rb', hrb', rfl, _, hpre, _⟩ := h2
    simp only [idPair, List.drop_succ_cons, List.drop_zero, List.cons.injEq, and_true] at h12
    have e1 : ra' = ra := List.inj_on_of_nodup_map hLid hra' hra h12.1
    have e2 : rb' = rb := List.inj_on_of_nodup_map hRid hrb' hrb h12.2
    subst e1 e2
    have hr := (sel_iff.1 hsel).1
    have := hpre r (by simp)
    rw [hr] at this
    exact Bool.noConfusion this

/-! ### Orientation -/

theorem admissible_lt {lt : LinkType} (hlt : lt ≠ .twoDatasetLinkOnly) {ra rb : Row}
    (h : admissible lt ra rb = true) : Cmp.lt.eval (rowId lt ra) (rowId lt rb) = .bool true := by
  cases lt
  · exact beq_iff_eq.1 h
  · exact beq_iff_eq.1 (Bool.and_eq_true _ _ ▸ h).1
  · exact beq_iff_eq.1 h
  · exact absurd rfl hlt

theorem specFrom_one_orientation {lt : LinkType} (hlt : lt ≠ .twoDatasetLinkOnly) {L R : List Row}
    {rules : List Expr} {x y a b : Val} (h : [x, a, b] ∈ specFrom lt L R [] rules) :
    [y, b, a] ∉ specFrom lt L R [] rules ∧ a ≠ b := by
  -- the `WHERE` clause orders the identities
  have key : ∀ {x a b}, [x, a, b] ∈ specFrom lt L R [] rules → Cmp.lt.eval a b = .bool true := by
    intro x a b h
    obtain ⟨i, ra, _, rb, _, heq, hadm, _⟩ := (mem_specFrom_nil ..).1 h
    cases heq
    exact admissible_lt hlt hadm
  have h1 := key h
  exact ⟨fun h' => cmp_lt_asymm h1 (key h'), fun e => by subst e; exact cmp_lt_asymm h1 h1⟩

/-! ## 4. Refinement: the functional model `Blocking.block` -/

/-- SQL value of a predicate → the model's three-valued logic. -/
def toB3 : Val → B3
  | .bool b => some b
  | _ => none

theorem isTrue_toB3 (v : Val) : B3.isTrue (toB3 v) = (v == .bool true) := by
  cases v <;> first | rfl | (rename_i b; cases b <;> rfl)

/-- The outcome function of a rule on record indices of the table `T`. -/
def toRule (T : List Row) (e : Expr) : Blocking.Rule :=
  { kind := .plain, eval := fun l r => toB3 (e.eval (T.getD l [] ++ T.getD r [])) }

theorem isTrue_toRule (T : List Row) (e : Expr) (l r : Nat) :
    B3.isTrue ((toRule T e).eval l r) = e.holds (T.getD l [] ++ T.getD r []) := isTrue_toB3 _

/-- The SQL row of a model row `(match_key, l, r)`. -/
def emit (lt : LinkType) (T : List Row) (x : Blocking.Row) : Row :=
  [mkVal x.1, rowId lt (T.getD x.2.1 []), rowId lt (T.getD x.2.2 [])]

/-- The model's table corresponds to the SQL table: same number of records, `key` orders records as the engine orders
their identities, `sd` separates records as the engine separates their source datasets (ranks do; read by `link_only` only). -/
structure Corr (lt : LinkType) (T : List Row) (t : Blocking.Table) : Prop where
  m : t.m = T.length
  key : ∀ l, l < T.length → ∀ r, r < T.length →
    decide (t.key l < t.key r) = (Cmp.lt.eval (rowId lt (T.getD l [])) (rowId lt (T.getD r [])) == .bool true)
  sd : lt = .linkOnly → ∀ l, l < T.length → ∀ r, r < T.length →
    (t.sd l != t.sd r) = (Cmp.ne.eval ((T.getD l []).getD 0 .null) ((T.getD r []).getD 0 .null) == .bool true)

theorem pairsOf_map {ι : Type} (lt : LinkType) (f : ι → Row) (I J : List ι) (pre : List Expr) (rule : Expr) :
    pairsOf lt (I.map f) (J.map f) pre rule
      = I.flatMap fun i => (J.filter fun j => sel lt pre rule (f i) (f j)).map fun j =>
          [mkVal pre.length, rowId lt (f i), rowId lt (f j)] := by
  simp only [pairsOf, List.flatMap_map, List.filter_map, List.map_map]
  rfl

theorem whereCond_corr {lt : LinkType} (hlt : lt ≠ .twoDatasetLinkOnly) {T : List Row} {t : Blocking.Table}
    (hc : Corr lt T t) (l r : Nat) (hl : l < T.length) (hr : r < T.length) :
    Blocking.whereCond lt t l r = admissible lt (T.getD l []) (T.getD r []) := by
  have hk := hc.key l hl r hr
  cases lt
  · simp only [Blocking.whereCond, admissible]
    exact hk
  · simp only [Blocking.whereCond, admissible]
    rw [hk, hc.sd rfl l hl r hr]
  · simp only [Blocking.whereCond, admissible]
    exact hk
  · exact absurd rfl hlt

theorem excluded_corr (T : List Row) (l r : Nat) :
    ∀ (preD : List Blocking.Done) (pre : List Expr), List.Forall₂ (fun d p => d.1 = toRule T p) preD pre →
      Blocking.excluded preD l r = pre.any fun p => p.holds (T.getD l [] ++ T.getD r []) := by
  intro preD pre h
  induction h with
  | nil => simp [Blocking.excluded]
  | cons hd _ ih =>
    rename_i d p ds ps
    simp only [Blocking.excluded, List.any_cons] at ih ⊢
    rw [ih]
    congr 1
    rw [Blk.excludedBy_eq, hd]
    exact isTrue_toRule T _ l r

theorem tag_emit (lt : LinkType) (T : List Row) (k : Nat) (I : List Nat) (P : Nat → Nat → Bool) :
    ((Blocking.joinFilter I I P).map (fun p => ((k, p.1, p.2) : Blocking.Row))).map (emit lt T)
      = I.flatMap fun l => (I.filter (P l)).map fun r =>
          [mkVal k, rowId lt (T.getD l []), rowId lt (T.getD r [])] := by
  simp only [Blocking.joinFilter, List.map_flatMap, List.map_map]
  rfl

theorem specFrom_eq_model (lt : LinkType) (hlt : lt ≠ .twoDatasetLinkOnly) (T : List Row) (t : Blocking.Table)
    (hc : Corr lt T t) :
    ∀ (rules pre : List Expr) (preD : List Blocking.Done), List.Forall₂ (fun d p => d.1 = toRule T p) preD pre →
      specFrom lt T T pre rules = (Blocking.blockFrom lt t preD (rules.map (toRule T))).map (emit lt T) := by
  intro rules
  induction rules with
  | nil =>
    intro pre preD _
    simp [specFrom, Blocking.blockFrom]
  | cons r rest ih =>
    intro pre preD hpre
    have hlen : preD.length = pre.length := hpre.length_eq
    simp only [specFrom, List.map_cons, Blocking.blockFrom, List.map_append]
    congr 1
    · -- the pairs of this rule
      have hT := range_getD T []
      have hrp : Blocking.rulePairs lt t preD (toRule T r)
          = Blocking.joinFilter (List.range T.length) (List.range T.length) fun l r' =>
              B3.isTrue ((toRule T r).eval l r') && Blocking.whereCond lt t l r' && !Blocking.excluded preD l r' := by
        simp only [Blocking.rulePairs, toRule, Blk.leftTable_selfJoin hlt t, Blk.rightTable_selfJoin hlt t, hc.m]
      rw [hrp, tag_emit, hlen]
      calc pairsOf lt T T pre r
          = pairsOf lt ((List.range T.length).map fun i => T.getD i [])
              ((List.range T.length).map fun i => T.getD i []) pre r := by rw [hT]
        _ = _ := by
          rw [pairsOf_map]
          apply flatMap_filter_map_congr
          · intro l hl r' hr'
            rw [List.mem_range] at hl hr'
            simp only [sel, isTrue_toRule, whereCond_corr hlt hc l r' hl hr', excluded_corr T l r' preD pre hpre]
          · intro _ _ _ _ _
            rfl
    · exact ih (pre ++ [r]) (preD ++ [(toRule T r, Blocking.rulePairs lt t preD (toRule T r))])
        (List.rel_append hpre (List.Forall₂.cons rfl List.Forall₂.nil))

theorem toRule_noRules (T : List Row) : toRule T Gen.BlockSql.noRulesRule = Blocking.trueRule := rfl

end SplinkVerif.Lemmas.BlockSql
