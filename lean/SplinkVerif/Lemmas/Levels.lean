import SplinkVerif.Model.Levels
import SplinkVerif.Lemmas.Base
/-!
# Lemmas for C16 (comparison levels)

The threshold tests are monotone in the threshold; `firstTrue` assigns exactly one level; a level list
`null :: mid ++ [ELSE]` is well formed as soon as `mid` is `Inner` (no null level, no `ELSE`, pairwise `Before`),
and `Inner` lists are built by the rules of `namespace Inner`.  Core Lean only.
-/
namespace SplinkVerif.Levels
open SplinkVerif SplinkVerif.B3

theorem Val.isNull_iff (v : Val) : v.isNull = true ↔ v = .null := by
  cases v <;> simp [Val.isNull]

/-! ### Threshold monotonicity -/

/-! The three comparisons are `d.map fun x => decide (p x)`: `B3.isTrue_map_decide_mono`. -/

theorem cmpLe_mono {d : Option Rat} {t₁ t₂ : Rat} (h : t₁ ≤ t₂) :
    isTrue (cmpLe d t₁) = true → isTrue (cmpLe d t₂) = true :=
  isTrue_map_decide_mono (fun _ hx => Rat.le_trans hx h) d

theorem cmpGe_mono {d : Option Rat} {t₁ t₂ : Rat} (h : t₂ ≤ t₁) :
    isTrue (cmpGe d t₁) = true → isTrue (cmpGe d t₂) = true :=
  isTrue_map_decide_mono (fun _ hx => Rat.le_trans h hx) d

theorem cmpLt_mono {d : Option Rat} {t₁ t₂ : Rat} (h : t₁ ≤ t₂) :
    isTrue (cmpLt d t₁) = true → isTrue (cmpLt d t₂) = true :=
  isTrue_map_decide_mono (fun _ hx => Std.lt_of_lt_of_le hx h) d

theorem seconds_nonneg (u : TimeUnit) : (0 : Rat) ≤ u.seconds := by
  cases u <;> decide

theorem mul_seconds_mono {a b : Rat} (u : TimeUnit) (h : a ≤ b) : a * u.seconds ≤ b * u.seconds := by
  rw [Rat.mul_comm a, Rat.mul_comm b]
  exact Rat.mul_le_mul_of_nonneg_left h (seconds_nonneg u)

/-! ### Exactly one level -/

theorem assignedAt_zero (M : Metrics) (l r : Env) (x : LevelKind) (xs : List LevelKind) :
    AssignedAt M (x :: xs) l r 0 ↔ isTrue (sat M x l r) = true := by
  -- no level stands before index 0
  simp [AssignedAt]

theorem assignedAt_succ (M : Metrics) (l r : Env) (x : LevelKind) (xs : List LevelKind) (i : Nat) :
    AssignedAt M (x :: xs) l r (i + 1) ↔ isTrue (sat M x l r) = false ∧ AssignedAt M xs l r i := by
  constructor
  · rintro ⟨hi, hb⟩
    exact ⟨hb 0 x (Nat.succ_pos i) rfl, hi, fun j y hj => hb (j + 1) y (Nat.succ_lt_succ hj)⟩
  · rintro ⟨hx, hi, hb⟩
    refine ⟨hi, fun j y hj hy => ?_⟩
    cases j with
    | zero => exact Option.some.inj hy ▸ hx
    | succ j => exact hb j y (Nat.lt_of_succ_lt_succ hj) hy

/-- The index the CASE statement returns is the one level the pair is assigned to. -/
theorem firstTrue_eq_some_iff (M : Metrics) (l r : Env) (levels : List LevelKind) (i : Nat) :
    firstTrue M l r levels = some i ↔ AssignedAt M levels l r i := by
  induction levels generalizing i with
  | nil => simp [firstTrue, AssignedAt]
  | cons x xs ih =>
    -- both sides look at the head first: does it fire, and is `i` its index
    cases hx : isTrue (sat M x l r) with
    | true =>
      cases i with
      | zero => simp [firstTrue, hx, assignedAt_zero]
      | succ i => simp [firstTrue, hx, assignedAt_succ]
    | false =>
      cases i with
      | zero => simp [firstTrue, hx, assignedAt_zero]
      | succ i => simp [firstTrue, hx, assignedAt_succ, ih i]

theorem firstTrue_none (M : Metrics) (l r : Env) (levels : List LevelKind)
    (h : firstTrue M l r levels = none) : ∀ x ∈ levels, isTrue (sat M x l r) = false := by
  induction levels with
  | nil =>
    intro x hx
    cases hx
  | cons y ys ih =>
    intro x hx
    by_cases hy : isTrue (sat M y l r) = true
    · -- a head that fires makes the answer `some 0`
      simp [firstTrue, hy] at h
    · -- otherwise the answer is the tail's, shifted by one
      simp [firstTrue, hy] at h
      rcases List.mem_cons.mp hx with rfl | hx'
      · simpa using hy
      · exact ih h x hx'

theorem firstTrue_some_of_else (M : Metrics) (levels : List LevelKind) (l r : Env)
    (h : levels.getLast? = some .else_) : ∃ i, firstTrue M l r levels = some i := by
  cases hf : firstTrue M l r levels with
  | some i => exact ⟨i, rfl⟩
  | none =>
    have hmem : LevelKind.else_ ∈ levels := List.mem_of_getLast? h
    have := firstTrue_none M l r levels hf _ hmem
    -- but the condition of ELSE is `some true`
    simp [sat, B3.isTrue] at this

/-! ### Well-formed level lists -/

theorem wf_getLast {levels : List LevelKind} (h : WellFormed levels) : levels.getLast? = some .else_ := by
  unfold WellFormed wfB elseLastB at h
  simp only [Bool.and_eq_true, beq_iff_eq] at h
  exact h.1.2.1

theorem elseLastB_concat (ys : List LevelKind) (h : ∀ y ∈ ys, y ≠ .else_) : elseLastB (ys ++ [.else_]) = true := by
  simp only [elseLastB, List.getLast?_concat, List.dropLast_concat, Bool.and_eq_true, beq_self_eq_true, true_and,
    List.all_eq_true, bne_iff_ne]
  exact h

/-- `a` may stand before `b`: what `orderedB` asks of every pair of a list. -/
def Before (a b : LevelKind) : Prop := stricterOrUnrelated a b = true ∧ notFuzzyBeforeExact a b = true

theorem orderedB_iff (levels : List LevelKind) : orderedB levels = true ↔ levels.Pairwise Before := by
  simp only [orderedB, decide_eq_true_eq, Bool.and_eq_true]
  rfl

theorem notFuzzyBeforeExact_of {a : LevelKind} (h : ∀ c, fuzzyOn c a = false) (b : LevelKind) :
    notFuzzyBeforeExact a b = true := by
  unfold notFuzzyBeforeExact
  split
  · rw [h]
    rfl
  · rfl

theorem before_exact (c : ColExpr) (b : LevelKind) : Before (.exact c) b :=
  ⟨rfl, notFuzzyBeforeExact_of (fun _ => rfl) b⟩

theorem before_else (a : LevelKind) : Before a .else_ :=
  ⟨by cases a <;> rfl, rfl⟩

theorem before_of_isNullLevel {n : LevelKind} (hn : isNullLevel n = true) (b : LevelKind) : Before n b := by
  induction n generalizing b with
  | null c => exact ⟨rfl, notFuzzyBeforeExact_of (fun _ => rfl) b⟩
  | or _ _ => exact ⟨rfl, notFuzzyBeforeExact_of (fun _ => rfl) b⟩
  | and a₁ a₂ ih₁ ih₂ =>
    refine ⟨?_, notFuzzyBeforeExact_of (fun _ => rfl) b⟩
    simp only [isNullLevel, Bool.and_eq_true] at hn
    cases b with
    | and b₁ b₂ => exact Bool.and_eq_true_iff.mpr ⟨(ih₁ hn.1 b₁).1, (ih₂ hn.2 b₂).1⟩
    | _ => rfl
  | _ => cases hn

/-- Within a family `stricterOrUnrelated` ends in `|| decide (the thresholds are in order)`. -/
theorem or_decide {b : Bool} {p : Prop} [Decidable p] (h : p) : (b || decide p) = true :=
  Bool.or_eq_true_iff.mpr (.inr (decide_eq_true h))

theorem before_absoluteTimeDifference (c : ColExpr) (s : Bool) (fmt : Option String) {k k' : Q} {u u' : TimeUnit}
    (h : k.toRat * u.seconds ≤ k'.toRat * u'.seconds) :
    Before (.absoluteTimeDifference c s k u fmt) (.absoluteTimeDifference c s k' u' fmt) :=
  ⟨or_decide h, rfl⟩

theorem before_absoluteDateDifference (c : ColExpr) (s : Bool) (fmt : Option String) {k k' : Q} {u u' : TimeUnit}
    (h : k.toRat * u.seconds ≤ k'.toRat * u'.seconds) :
    Before (.absoluteDateDifference c s k u fmt) (.absoluteDateDifference c s k' u' fmt) :=
  ⟨or_decide h, rfl⟩

/-- The order `orderedB` asks of two levels of one family is the one under which they nest (`C16.family_nested`). -/
theorem before_level (f : Family) {k₁ k₂ : Q}
    (h : if f.ascending = true then k₁.toRat ≤ k₂.toRat else k₂.toRat ≤ k₁.toRat) :
    Before (f.level k₁) (f.level k₂) := by
  refine ⟨?_, by cases f <;> rfl⟩
  -- once the family is known `h` and `stricterOrUnrelated` compute
  cases f with
  -- `stricterOrUnrelated` has no clause for `dlOrLev`: two such levels count as unrelated whatever their thresholds
  | dlOrLev c => rfl
  | distanceFunction c fn hi => cases hi <;> exact or_decide h
  | pairwise c m => cases m <;> exact or_decide h
  | absoluteTimeDifference c s u fmt => exact (before_absoluteTimeDifference c s fmt (mul_seconds_mono u h)).1
  | absoluteDateDifference c s u fmt => exact (before_absoluteDateDifference c s fmt (mul_seconds_mono u h)).1
  | _ => exact or_decide h

/-- What may stand between the null level and ELSE: neither of the two, and ordered. -/
def Inner (l : List LevelKind) : Prop := (∀ y ∈ l, isNullLevel y = false ∧ y ≠ .else_) ∧ l.Pairwise Before

theorem wellFormed_of {n : LevelKind} {mid : List LevelKind} (hn : isNullLevel n = true) (h : Inner mid) :
    WellFormed (n :: (mid ++ [.else_])) := by
  have hnull : nullFirstB (n :: (mid ++ [.else_])) = true := by
    simp only [nullFirstB, hn, List.all_append, List.all_cons, List.all_nil, isNullLevel, Bool.not_false, Bool.and_true,
      Bool.true_and, List.all_eq_true, Bool.not_eq_true']
    exact fun y hy => (h.1 y hy).1
  have hne : n ≠ .else_ := by
    rintro rfl
    cases hn
  have helse : elseLastB (n :: (mid ++ [.else_])) = true :=
    elseLastB_concat (n :: mid) (List.forall_mem_cons.mpr ⟨hne, fun y hy => (h.1 y hy).2⟩)
  have hord : orderedB (n :: (mid ++ [.else_])) = true := by
    rw [orderedB_iff, List.pairwise_cons, List.pairwise_append]
    exact ⟨fun b _ => before_of_isNullLevel hn b, h.2, List.pairwise_singleton _ _,
      fun a _ b hb => List.mem_singleton.mp hb ▸ before_else a⟩
  simp only [WellFormed, wfB, hnull, helse, hord, Bool.and_self]

namespace Inner

theorem nil : Inner [] := ⟨nofun, .nil⟩

theorem cons {a : LevelKind} {l : List LevelKind} (ha : isNullLevel a = false ∧ a ≠ .else_)
    (hb : ∀ b ∈ l, Before a b) (h : Inner l) : Inner (a :: l) :=
  ⟨List.forall_mem_cons.mpr ⟨ha, h.1⟩, List.pairwise_cons.mpr ⟨hb, h.2⟩⟩

theorem exact (c : ColExpr) {l : List LevelKind} (h : Inner l) : Inner (.exact c :: l) :=
  h.cons ⟨rfl, nofun⟩ fun b _ => before_exact c b

theorem append {l₁ l₂ : List LevelKind} (h₁ : Inner l₁) (h₂ : Inner l₂)
    (h : ∀ a ∈ l₁, ∀ b ∈ l₂, Before a b) : Inner (l₁ ++ l₂) :=
  ⟨List.forall_mem_append.mpr ⟨h₁.1, h₂.1⟩, List.pairwise_append.mpr ⟨h₁.2, h₂.2, h⟩⟩

theorem map {α : Type} {mk : α → LevelKind} {R : α → α → Prop} {ts : List α}
    (hmk : ∀ t, isNullLevel (mk t) = false ∧ mk t ≠ .else_) (hR : ∀ a b, R a b → Before (mk a) (mk b))
    (h : ts.Pairwise R) : Inner (ts.map mk) :=
  ⟨List.forall_mem_map.mpr fun t _ => hmk t, h.map mk hR⟩

theorem family (f : Family) {ts : List Q}
    (h : (if f.ascending = true then ascendingB ts else descendingB ts) = true) : Inner (ts.map f.level) := by
  refine map (R := fun a b => if f.ascending = true then a.toRat ≤ b.toRat else b.toRat ≤ a.toRat)
    (fun t => by cases f <;> exact ⟨rfl, nofun⟩) (fun _ _ => before_level f) ?_
  revert h
  cases f.ascending <;> exact of_decide_eq_true

end Inner

/-- `NameComparison`: the thresholds from `p` (0.88) up, then `D` (the optional metaphone level), then the
thresholds below `p`.  `D` has to be unrelated to both runs.  The list is written as the `++` of
`levelsOf (.nameComparison c ts dmeta)` computes on its leading cons cells, so that C16 applies the lemma with `exact`. -/
theorem wellFormed_name (c : ColExpr) (p : Rat) {ts : List Q} (h : descendingB ts = true) {D : List LevelKind}
    (hD : Inner D) (hx : ∀ x ∈ D, ∀ t, Before x (.jaroWinkler c t) ∧ Before (.jaroWinkler c t) x) :
    WellFormed (.null c :: (.exact c :: ((ts.filter (fun t => decide (p ≤ t.toRat))).map (.jaroWinkler c) ++ D
      ++ (ts.filter (fun t => !decide (p ≤ t.toRat))).map (.jaroWinkler c)) ++ [.else_])) := by
  have hJ (l : List Q) (hl : l.Pairwise fun a b => b.toRat ≤ a.toRat) : Inner (l.map (.jaroWinkler c)) :=
    .family (.jaroWinkler c) (decide_eq_true hl)
  have hts := of_decide_eq_true h
  refine wellFormed_of rfl (.exact c (.append (.append (hJ _ (hts.filter _)) hD ?_) (hJ _ (hts.filter _)) ?_))
  · exact List.forall_mem_map.mpr fun t _ b hb => (hx b hb t).2
  · simp only [List.forall_mem_append, List.forall_mem_map, List.mem_filter, decide_eq_true_eq,
      Bool.not_eq_eq_eq_not, Bool.not_true, decide_eq_false_iff_not]
    exact ⟨fun a ha b hb => before_level (.jaroWinkler c) (Rat.le_trans (Rat.le_of_lt (Rat.not_le.mp hb.2)) ha.2),
      fun x hx' t _ => (hx x hx' t).1⟩

/-- `ForenameSurnameComparison`, for either form `x` of its exact-match level; the list is
`levelsOf (.forenameSurnameComparison f s ts concat)` up to the computation of `[.exact s, .exact f, .else_]` as
`[.exact s, .exact f] ++ [.else_]`. -/
theorem wellFormed_forenameSurname (f s : ColExpr) {ts : List Q} (h : descendingB ts = true) {x : LevelKind}
    (hx : isNullLevel x = false ∧ x ≠ .else_)
    (hb : ∀ b ∈ .columnsReversed f s true ::
      (ts.map (fun t => .and (.jaroWinkler f t) (.jaroWinkler s t)) ++ [.exact s, .exact f]), Before x b) :
    WellFormed ([.and (.null f) (.null s), x, .columnsReversed f s true]
      ++ ts.map (fun t => .and (.jaroWinkler f t) (.jaroWinkler s t)) ++ ([.exact s, .exact f] ++ [.else_])) := by
  have hjw : Inner (ts.map fun t => .and (.jaroWinkler f t) (.jaroWinkler s t)) :=
    .map (fun _ => ⟨rfl, nofun⟩) (fun _ _ hab => ⟨Bool.and_eq_true_iff.mpr
      ⟨(before_level (.jaroWinkler f) hab).1, (before_level (.jaroWinkler s) hab).1⟩, rfl⟩) (of_decide_eq_true h)
  rw [← List.append_assoc]
  refine wellFormed_of rfl (.cons hx hb (.cons ⟨rfl, nofun⟩ (fun b _ => ⟨rfl, notFuzzyBeforeExact_of (fun _ => rfl) b⟩)
    (.append hjw (.exact s (.exact f .nil)) (List.forall_mem_map.mpr fun _ _ => ?_))))
  simp only [List.forall_mem_cons]
  exact ⟨⟨rfl, rfl⟩, ⟨rfl, rfl⟩, nofun⟩

end SplinkVerif.Levels
