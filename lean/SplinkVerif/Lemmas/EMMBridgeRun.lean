import SplinkVerif.Lemmas.EMMBridge
import SplinkVerif.Lemmas.EMMBridgeWitness
/-!
# One `EM.step` preserves the hypotheses of the M-step bridge

`StepOK θ rows` holds the hypotheses of `absParamsC_step` and `execLogLik_mono` together with
`rows ≠ []` (without rows the new prior is `0/0`).  The step keeps the fields that do not speak of
`m` and `u` because `newLevel` changes nothing else; it keeps positivity and sub-normalisation
because the new `m`, `u` are those of `EML.emStep`, which keeps them.
-/
namespace SplinkVerif.Lemmas.EMMBridge
open SplinkVerif SplinkVerif.Score SplinkVerif.Lemmas.Score
open SplinkVerif.Lemmas SplinkVerif.Lemmas.EMBridge SplinkVerif.Lemmas.EM

/-- All hypotheses of the M-step bridge and of likelihood monotonicity.  `execLogLik_mono` does not
ask for `distinct`; it is here because the step keeps `subM`, `subU` only under it: a second level
with an observed value is handed the estimate of the first (`step_sub_of`, through
`sum_observed_eq`). -/
structure StepOK (θ : EM.Params ℝ) (rows : List (EM.Row ℝ)) : Prop where
  prior_pos : 0 < θ.prior
  prior_lt : θ.prior < 1
  noTf : NoTf θ
  positive : PositiveMU θ
  distinct : DistinctValues θ
  nullMinusOne : NullIsMinusOne θ
  shape : SameShape θ
  flags : LevelFlagsOff θ
  guards : GuardsMatch θ rows
  total : EveryComparisonAssignsLevel θ rows
  nonempty : rows ≠ []
  counts : ∀ r ∈ rows, 0 < r.count
  subM : SubNormalisedM θ rows
  subU : SubNormalisedU θ rows

theorem StepOK.estep {θ : EM.Params ℝ} {rows : List (EM.Row ℝ)} (h : StepOK θ rows) :
    EStepBridged θ rows :=
  eStepBridged_of θ rows h.prior_pos h.prior_lt h.noTf h.positive h.guards h.total

section preserve
variable (sess : EM.Session) (θ : EM.Params ℝ) (rows : List (EM.Row ℝ))

/-! ## What does not depend on the numbers -/

/-- comps and states after the step are two projections of the same list -/
theorem step_sameShape : SameShape (EM.step sess θ rows) := by
  unfold SameShape
  simp [EM.step, List.map_map, Function.comp_def]

theorem updateLevel_snd_flags (ci : ℕ) (l : Level ℝ) (st : EM.LevelState) :
    (EM.updateLevel sess θ rows ci l st).2.fixM = st.fixM ∧
      (EM.updateLevel sess θ rows ci l st).2.fixU = st.fixU := by
  rw [updateLevel_eq]
  cases l.isNull <;> simp

theorem step_flags (hflags : LevelFlagsOff θ) : LevelFlagsOff (EM.step sess θ rows) := by
  intro sts' hsts' st' hst'
  simp only [EM.step, List.mem_map] at hsts'
  obtain ⟨d, hd, rfl⟩ := hsts'
  obtain ⟨i, hi⟩ := List.mem_iff_getElem?.mp hd
  obtain ⟨x, y, _, hy, rfl⟩ := zipWith3Idx_getElem? _ _ _ i d hi
  simp only [List.map_map, List.mem_map, Function.comp] at hst'
  obtain ⟨p, hp, rfl⟩ := hst'
  have hpy : p.2 ∈ y := (List.of_mem_zip hp).2
  have hyθ : y ∈ θ.states := List.mem_of_getElem? hy
  obtain ⟨h1, h2⟩ := hflags y hyθ p.2 hpy
  obtain ⟨e1, e2⟩ := updateLevel_snd_flags sess θ rows i p.1 p.2
  exact ⟨e1.trans h1, e2.trans h2⟩

section
variable (hshape : SameShape θ) (hflags : LevelFlagsOff θ)
include hshape hflags

theorem mem_step_comps (c' : Comparison ℝ)
    (h : c' ∈ (EM.step sess θ rows).comps) :
    ∃ (ci : ℕ) (hc : ci < θ.comps.length), c' = (θ.comps[ci]).map (newLevel sess θ rows ci) := by
  obtain ⟨ci, hci, rfl⟩ := List.mem_iff_getElem.mp h
  have hc : ci < θ.comps.length := by
    rw [← step_comps_length sess θ rows hshape hflags]; exact hci
  exact ⟨ci, hc, step_comp_getElem sess θ rows hshape hflags ci hci hc⟩

theorem step_noTf (h : NoTf θ) :
    NoTf (EM.step sess θ rows) := by
  intro c' hc'
  obtain ⟨ci, hc, rfl⟩ := mem_step_comps sess θ rows hshape hflags c' hc'
  have := h _ (List.getElem_mem hc)
  unfold hasTf at this ⊢
  rw [List.any_map]
  rw [← this]
  congr 1
  funext l
  simp [newLevel_tf]

theorem step_distinct (h : DistinctValues θ) :
    DistinctValues (EM.step sess θ rows) := by
  intro c' hc'
  obtain ⟨ci, hc, rfl⟩ := mem_step_comps sess θ rows hshape hflags c' hc'
  have := h _ (List.getElem_mem hc)
  rw [List.map_map]
  have e : ((fun x : Level ℝ => x.cvv) ∘ newLevel sess θ rows ci) = fun x => x.cvv := by
    funext l; simp [newLevel_cvv]
  rw [e]
  exact this

theorem step_nullMinusOne (h : NullIsMinusOne θ) : NullIsMinusOne (EM.step sess θ rows) := by
  intro c' hc' l' hl'
  obtain ⟨ci, hc, rfl⟩ := mem_step_comps sess θ rows hshape hflags c' hc'
  obtain ⟨l, hl, rfl⟩ := List.mem_map.mp hl'
  rw [newLevel_isNull, newLevel_cvv]
  exact h _ (List.getElem_mem hc) l hl

theorem step_guards (h : GuardsMatch θ rows) :
    GuardsMatch (EM.step sess θ rows) rows := by
  intro r hr
  rw [step_comps_length sess θ rows hshape hflags]
  exact h r hr

theorem step_total (h : EveryComparisonAssignsLevel θ rows) :
    EveryComparisonAssignsLevel (EM.step sess θ rows) rows := by
  intro r hr c hc
  rw [gammaAt_step sess θ rows hshape hflags]
  exact h r hr c (by rw [← step_comps_length sess θ rows hshape hflags]; exact hc)

theorem observedValues_step (rows' : List (EM.Row ℝ)) (c : ℕ) :
    EM.observedValues (EM.step sess θ rows) rows' c = EM.observedValues θ rows' c := by
  unfold EM.observedValues
  simp only [gammaAt_step sess θ rows hshape hflags]

end

/-! ## Positivity and normalisation of the new values -/

theorem absStep_pos (hl0 : 0 < θ.prior) (hl1 : θ.prior < 1) (hpos : PositiveMU θ)
    (hcount : ∀ r ∈ rows, 0 < r.count) (c : Fin θ.comps.length) (i : Fin (absL θ c))
    (hn : (levelAt θ c i).isNull = false) :
    0 < (absStep sess θ rows).m c i ∧ 0 < (absStep sess θ rows).u c i := by
  have hq := EML.post_mem (absParams_interior θ rows hl0 hl1 hpos)
  have hn' := rowWeights_pos rows hcount
  have hold := hpos _ (List.getElem_mem c.isLt) _ (List.getElem_mem i.isLt) hn
  unfold absStep EML.emStep
  constructor
  · cases sess.fixM
    · exact EML.newBlock_pos _ _ (EML.wM_pos _ _ _ hn' hq) _ (by norm_num) c i
    · exact hold.1
  · cases sess.fixU
    · exact EML.newBlock_pos _ _ (EML.wU_pos _ _ _ hn' hq) _ (by norm_num) c i
    · exact hold.2

theorem step_positive (h : StepOK θ rows) : PositiveMU (EM.step sess θ rows) := by
  intro c' hc' l' hl' hn'
  obtain ⟨ci, hc, rfl⟩ := mem_step_comps sess θ rows h.shape h.flags c' hc'
  obtain ⟨l, hl, rfl⟩ := List.mem_map.mp hl'
  obtain ⟨i, hi, rfl⟩ := List.mem_iff_getElem.mp hl
  rw [newLevel_isNull] at hn'
  obtain ⟨e1, e2⟩ := newLevel_eq_absStep sess θ rows ⟨ci, hc⟩ ⟨i, hi⟩
    (isFirst_of_distinct θ h.distinct _ _) h.nullMinusOne hn' h.guards h.estep
  have hp := absStep_pos sess θ rows h.prior_pos h.prior_lt h.positive h.counts ⟨ci, hc⟩ ⟨i, hi⟩ hn'
  exact ⟨e1 ▸ hp.1, e2 ▸ hp.2⟩

theorem step_prior_mem (h : StepOK θ rows) :
    0 < (EM.step sess θ rows).prior ∧ (EM.step sess θ rows).prior < 1 := by
  rw [step_prior_eq sess θ rows h.estep]
  have : Nonempty (Fin rows.length) := ⟨⟨0, List.length_pos_iff.mpr h.nonempty⟩⟩
  have h' := EML.emStep_interior sess.fixM sess.fixU sess.fixLambda (1 / 1000000) (rowWeights rows)
    (absParams_interior θ rows h.prior_pos h.prior_lt h.positive) (rowWeights_pos rows h.counts)
  exact ⟨h'.lam_pos, h'.lam_lt_one⟩

/-- a field `p` of the levels is sub-normalised after the step when, at the observed positions,
it is a block `b` that is sub-normalised there -/
theorem step_sub_of (h : StepOK θ rows) (p : Level ℝ → ℝ) (b : EML.Block θ.comps.length (absL θ))
    (hb : ∀ c l, EML.Observed (rowPatterns θ rows) c l →
      p (newLevel sess θ rows c.val (levelAt θ c l)) = b c l)
    (hsum : ∀ c, ∑ l with EML.Observed (rowPatterns θ rows) c l, b c l ≤ 1)
    (c : ℕ) (hc' : c < (EM.step sess θ rows).comps.length) :
    ((((EM.step sess θ rows).comps[c]).filter fun l =>
      (EM.observedValues (EM.step sess θ rows) rows c).contains l.cvv).map p).sum ≤ 1 := by
  have hc : c < θ.comps.length := by
    rw [← step_comps_length sess θ rows h.shape h.flags]; exact hc'
  have e : ((fun l : Level ℝ => (EM.observedValues θ rows c).contains l.cvv) ∘
      newLevel sess θ rows c) = fun l => (EM.observedValues θ rows c).contains l.cvv := by
    funext l; simp [newLevel_cvv]
  rw [observedValues_step sess θ rows h.shape h.flags,
    step_comp_getElem sess θ rows h.shape h.flags c hc' hc, List.filter_map, List.map_map, e,
    ← sum_observed_eq θ rows ⟨c, hc⟩ h.distinct h.nullMinusOne h.guards
      (p ∘ newLevel sess θ rows c)]
  exact (Finset.sum_congr rfl fun l hl => hb ⟨c, hc⟩ l (Finset.mem_filter.1 hl).2).trans_le
    (hsum ⟨c, hc⟩)

theorem step_sub (h : StepOK θ rows) :
    SubNormalisedM (EM.step sess θ rows) rows ∧ SubNormalisedU (EM.step sess θ rows) rows := by
  obtain ⟨sm, su⟩ := absParams_subNormalised θ rows h.positive h.nullMinusOne h.guards h.subM h.subU
  obtain ⟨sm', su'⟩ := EML.emStep_sum_le_one sess.fixM sess.fixU sess.fixLambda (1 / 1000000)
    (rowWeights rows) (absParams_interior θ rows h.prior_pos h.prior_lt h.positive)
    (rowWeights_pos rows h.counts) sm su
  have hb : ∀ c l, EML.Observed (rowPatterns θ rows) c l → _ := fun c l ⟨_, hj⟩ =>
    newLevel_eq_absStep sess θ rows c l (isFirst_of_distinct θ h.distinct c l) h.nullMinusOne
      (absPattern_some θ _ c l hj).1 h.guards h.estep
  exact ⟨step_sub_of sess θ rows h (·.m) _ (fun c l hl => (hb c l hl).1) sm',
    step_sub_of sess θ rows h (·.u) _ (fun c l hl => (hb c l hl).2) su'⟩

theorem stepOK_step (h : StepOK θ rows) : StepOK (EM.step sess θ rows) rows where
  prior_pos := (step_prior_mem sess θ rows h).1
  prior_lt := (step_prior_mem sess θ rows h).2
  noTf := step_noTf sess θ rows h.shape h.flags h.noTf
  positive := step_positive sess θ rows h
  distinct := step_distinct sess θ rows h.shape h.flags h.distinct
  nullMinusOne := step_nullMinusOne sess θ rows h.shape h.flags h.nullMinusOne
  shape := step_sameShape sess θ rows
  flags := step_flags sess θ rows h.flags
  guards := step_guards sess θ rows h.shape h.flags h.guards
  total := step_total sess θ rows h.shape h.flags h.total
  nonempty := h.nonempty
  counts := h.counts
  subM := (step_sub sess θ rows h).1
  subU := (step_sub sess θ rows h).2

theorem stepOK_mono (h : StepOK θ rows) :
    execLogLik θ rows ≤ execLogLik (EM.step sess θ rows) rows :=
  execLogLik_mono sess θ rows h.prior_pos h.prior_lt h.noTf h.positive h.nullMinusOne h.shape
    h.flags h.guards h.total h.counts h.subM h.subU

end preserve

/-- the non-vacuity instance of `Lemmas/EMMBridgeWitness.lean` satisfies `StepOK` -/
theorem Ex.stepOK : StepOK Ex.θ Ex.rows where
  prior_pos := Ex.prior_pos
  prior_lt := Ex.prior_lt
  noTf := Ex.noTf
  positive := Ex.positive
  distinct := Ex.distinct
  nullMinusOne := Ex.nullMinusOne
  shape := Ex.shape
  flags := Ex.flags
  guards := Ex.guards
  total := Ex.total
  nonempty := by simp [Ex.rows]
  counts := Ex.counts
  subM := Ex.subM
  subU := Ex.subU

end SplinkVerif.Lemmas.EMMBridge
