import SplinkVerif.Model.Entry
import SplinkVerif.Lemmas.Blocking
import SplinkVerif.Lemmas.Score
/-!
# `Model/Entry.lean`: the ad-hoc TF lookup, and the pairs two entry points score

* `tfSource`: whichever TF source is cached; `newRecordTf_eq_bind` makes the ad-hoc lookup a lookup of
  the record's value in it, and the `tfSource_*` lemmas say what it returns;
* `mem_findMatches_block`, `fmTable_*`: `find_matches_to_new_records` is a two-dataset blocking of the
  existing against the new records;
* `holds_clusterRule`, `saltOK_clusterRule`: `_score_missing_cluster_edges` blocks on the cluster id.
-/
namespace SplinkVerif.Lemmas.Entry
open SplinkVerif SplinkVerif.Score SplinkVerif.Blocking SplinkVerif.Entry
open SplinkVerif.Lemmas.Blk

variable {α : Type}

/-- A record is *plain* when it carries no `tf_*` field of its own. -/
def Plain (r : Rec α) : Prop := ∀ c, r.supplied c = none

/-- Every non-NULL TF-column value of the record occurs in the linker's input data. -/
def Seen (L : Linker α) (r : Rec α) : Prop := ∀ c v, r.val c = some v → L.inData c v = true

/-- Some TF source is cached for every column. -/
def HasSource (L : Linker α) : Prop := ∀ c, L.tableCached c = true ∨ L.concatCached = true

/-- The table in which the value of an ad-hoc record is looked up: the cached TF table, else the
distinct values of the cached concat table, else nothing. -/
def tfSource (L : Linker α) (c : Nat) : Nat → Option α :=
  if L.tableCached c then L.tf c else if L.concatCached then concatDistinct L c else fun _ => none

/-- Without a field of its own the record's value is looked up in `tfSource`, with or without
`input_table`. -/
theorem newRecordTf_eq_bind (h : Bool) (L : Linker α) (r : Rec α) (c : Nat)
    (hs : r.supplied c = none) : newRecordTf h L r c = (r.val c).bind (tfSource L c) := by
  have h0 : (if h = true then r.supplied c else none) = none := by
    cases h
    · rfl
    · exact hs
  unfold newRecordTf tfSource
  rw [h0]
  cases L.tableCached c
  · cases L.concatCached
    · cases r.val c <;> rfl
    · rfl
  · rfl

theorem tfSource_of_tf_none (L : Linker α) (c v : Nat) (hno : L.tf c v = none) :
    tfSource L c v = none := by
  unfold tfSource
  split
  · exact hno
  · split
    · exact ite_eq_right_iff.mpr fun _ => hno
    · rfl

theorem tfSource_of_inData (L : Linker α) (c v : Nat)
    (hsrc : L.tableCached c = true ∨ L.concatCached = true) (hin : L.inData c v = true) :
    tfSource L c v = L.tf c v := by
  unfold tfSource concatDistinct
  split
  · rfl
  · next ht => rw [if_pos (hsrc.resolve_left ht), if_pos hin]

theorem tfSource_of_not_cached (L : Linker α) (c : Nat) (ht : L.tableCached c = false)
    (hc : L.concatCached = false) : tfSource L c = fun _ => none := by
  rw [tfSource, ht, hc]
  rfl

theorem newRecordTf_not_honoured (L : Linker α) (r : Rec α) (c : Nat) :
    newRecordTf false L r c = newRecordTf false L { r with supplied := fun _ => none } c :=
  rfl

theorem newRecordTf_null_value (h : Bool) (L : Linker α) (r : Rec α) (c : Nat)
    (hs : r.supplied c = none) (hv : r.val c = none) : newRecordTf h L r c = none := by
  rw [newRecordTf_eq_bind h L r c hs, hv]
  rfl

/-! ## find_matches_to_new_records -/

/-- Among three rows two come from the same input, which is what `mem_block_two_dataset` asks of a
two-dataset table. -/
theorem fmTable_two (nE nN : Nat) (part : Nat → Nat → Nat) :
    ∀ a b c, a < (fmTable nE nN part).m → b < (fmTable nE nN part).m → c < (fmTable nE nN part).m →
      (fmTable nE nN part).sd a = (fmTable nE nN part).sd b ∨
      (fmTable nE nN part).sd b = (fmTable nE nN part).sd c ∨
      (fmTable nE nN part).sd a = (fmTable nE nN part).sd c := by
  intro a b c _ _ _
  -- the source dataset is a function of the truth value of `· < nE`, and of three truth values two agree
  have e : ∀ x y, decide (x < nE) = decide (y < nE) →
      (fmTable nE nN part).sd x = (fmTable nE nN part).sd y :=
    fun x y h => if_congr (decide_eq_decide.mp h) rfl rfl
  have two : ∀ p q r : Bool, p = q ∨ q = r ∨ p = r := by decide
  exact (two _ _ _).imp (e a b) (Or.imp (e b c) (e a c))

/-- Existing records are the left input, new records the right one. -/
theorem fmTable_sd_lt (nE nN : Nat) (part : Nat → Nat → Nat) (e n : Nat) :
    (fmTable nE nN part).sd e < (fmTable nE nN part).sd n ↔ e < nE ∧ nE ≤ n := by
  show (if e < nE then 0 else 1) < (if n < nE then 0 else 1) ↔ _
  rw [← Nat.not_lt (a := n)]
  by_cases he : e < nE
  · by_cases hn : n < nE
    · simp [he, hn]
    · simp [he, hn]
  · by_cases hn : n < nE
    · simp [he, hn]
    · simp [he, hn]

variable [Num α]

theorem mem_findMatches_block (L : Linker α) (W : World α) (nE nN : Nat) (part : Nat → Nat → Nat)
    (rules : List Rule) (thr : α) (row : Row) (s : Scored α) :
    (row, s) ∈ findMatches L W nE nN part rules thr ↔
      (row ∈ block .twoDatasetLinkOnly (fmTable nE nN part) rules ∧
        s = fmScore L W row.2.1 row.2.2) ∧ keepStrict thr s = true := by
  rw [findMatches, List.mem_filter, Lists.mem_map_graph]

/-! ## _score_missing_cluster_edges -/

theorem holds_clusterRule (cluster : Nat → Nat) (i l r : Nat) :
    holds [clusterRule cluster] i l r ↔ i = 0 ∧ cluster l = cluster r := by
  rw [holds_single]
  exact and_congr_right fun _ => by
    show B3.isTrue (some (cluster l == cluster r)) = true ↔ _
    cases h : cluster l == cluster r
    · exact ⟨fun h' => (nomatch h'), fun h' => absurd ((beq_iff_eq.mpr h').symm.trans h) Bool.noConfusion⟩
    · exact ⟨fun _ => beq_iff_eq.mp h, fun _ => rfl⟩

theorem saltOK_clusterRule (t : Table) (cluster : Nat → Nat) : SaltOK t [clusterRule cluster] := by
  intro r hr n hk
  cases List.mem_singleton.mp hr
  cases hk

end SplinkVerif.Lemmas.Entry
