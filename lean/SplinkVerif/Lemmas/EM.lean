import SplinkVerif.Lemmas.EMSums
import Mathlib.Data.List.Basic
/-!
# The list algorithms of EM training: `levelsToReverse` and `median`

`sortByLenDesc` and `foldr insertAsc []` are insertion sorts.  The first is used as a permutation
only; the second is a sorted permutation of its input, so it depends only on the multiset of the input.
-/
namespace SplinkVerif.Lemmas.EM
open SplinkVerif SplinkVerif.Score SplinkVerif.EM SplinkVerif.Lemmas.Score

/-! ## `sortByLenDesc` -/

theorem insertByLenDesc_perm {β : Type} (x : Nat × List β) (l : List (Nat × List β)) :
    (insertByLenDesc x l).Perm (x :: l) :=
  Lists.insert_perm (before := fun x y => x.2.length > y.2.length) (ins := insertByLenDesc) (fun _ => rfl) (fun _ _ _ => rfl) x l

theorem foldl_insertByLenDesc_perm {β : Type} (xs : List (Nat × List β)) :
    ∀ acc : List (Nat × List β),
      (xs.foldl (fun acc x => insertByLenDesc x acc) acc).Perm (acc ++ xs) := by
  induction xs with
  | nil =>
    intro acc
    simp
  | cons x xs ih =>
    intro acc
    rw [List.foldl_cons]
    refine (ih _).trans ?_
    refine ((insertByLenDesc_perm x acc).append_right xs).trans ?_
    simpa using (List.perm_middle (a := x) (l₁ := acc) (l₂ := xs)).symm

theorem sortByLenDesc_perm {β : Type} (xs : List (Nat × List β)) : (sortByLenDesc xs).Perm xs := by
  unfold sortByLenDesc
  simpa using foldl_insertByLenDesc_perm xs []

/-! ## The greedy choice -/

/-- `levelsToReverseAux` with the columns each index was chosen for: the chosen entries are a
sublist of `l`, the columns of each lie in `rem`, and a later entry avoids the columns of every
earlier one, because they were removed from `rem` when that one was chosen. -/
theorem levelsToReverseAux_spec (l : List (Nat × List Nat)) (rem : List Nat) :
    ∃ ch : List (Nat × List Nat), ch.Sublist l ∧ levelsToReverseAux l rem = ch.map Prod.fst ∧
      (∀ x ∈ ch, ∀ c ∈ x.2, c ∈ rem) ∧ ch.Pairwise fun x y => ∀ c ∈ x.2, c ∉ y.2 := by
  induction l generalizing rem with
  | nil =>
    exact ⟨[], List.Sublist.refl _, rfl, fun _ h => absurd h List.not_mem_nil, List.Pairwise.nil⟩
  | cons x rest ih =>
    obtain ⟨k, cols⟩ := x
    unfold levelsToReverseAux
    split
    · next hall =>
      obtain ⟨ch, hsub, heq, hrem, hpw⟩ := ih (rem.filter fun c => !cols.contains c)
      refine ⟨(k, cols) :: ch, hsub.cons_cons _, by rw [heq, List.map_cons], ?_,
        List.pairwise_cons.mpr ⟨?_, hpw⟩⟩
      · intro x hx c hc
        rcases List.mem_cons.mp hx with rfl | hx
        · exact List.contains_iff_mem.mp (List.all_eq_true.mp hall c hc)
        · exact (List.mem_filter.mp (hrem x hx c hc)).1
      · intro y hy c hc hcy
        have := (List.mem_filter.mp (hrem y hy c hcy)).2
        simp [hc] at this
    · obtain ⟨ch, hsub, heq, hrem, hpw⟩ := ih rem
      exact ⟨ch, hsub.cons _, heq, hrem, hpw⟩

/-! ## The sorted, numbered levels -/

theorem mem_range_zip (levels : List (List Nat)) (i : Nat) (cols : List Nat) :
    (i, cols) ∈ (List.range levels.length).zip levels ↔ levels[i]? = some cols := by
  simp only [List.mem_iff_getElem?, getElem?_range_zip _ (Nat.le_refl _), Option.map_eq_some_iff,
    Prod.mk.injEq]
  constructor
  · rintro ⟨k, a, h, rfl, rfl⟩
    exact h
  · intro h
    exact ⟨i, cols, h, rfl, rfl⟩

theorem nodup_fst_sortByLenDesc_zip (levels : List (List Nat)) :
    ((sortByLenDesc ((List.range levels.length).zip levels)).map Prod.fst).Nodup := by
  have hp := (sortByLenDesc_perm ((List.range levels.length).zip levels)).map Prod.fst
  rw [hp.nodup_iff, List.map_fst_zip (by simp)]
  exact List.nodup_range

theorem mem_sortByLenDesc_zip (levels : List (List Nat)) (i : Nat) (cols : List Nat) :
    (i, cols) ∈ sortByLenDesc ((List.range levels.length).zip levels) ↔
      levels[i]? = some cols := by
  rw [(sortByLenDesc_perm _).mem_iff, mem_range_zip]

/-! ## `insertAsc` -/

theorem insertAsc_nil (x : ℝ) : insertAsc x [] = [x] := rfl

theorem insertAsc_cons (x y : ℝ) (ys : List ℝ) :
    insertAsc x (y :: ys) = if x ≤ y then x :: y :: ys else y :: insertAsc x ys := by
  simp [insertAsc]

theorem foldr_insertAsc_perm (l : List ℝ) : (l.foldr insertAsc []).Perm l :=
  Lists.sort_perm insertAsc_nil insertAsc_cons l

theorem foldr_insertAsc_pairwise (l : List ℝ) : (l.foldr insertAsc []).Pairwise (· ≤ ·) :=
  Lists.sort_pairwise (S := fun _ => True) insertAsc_nil insertAsc_cons (fun _ _ _ _ h => h)
    (fun _ _ _ _ h => le_of_lt (not_le.mp h)) (fun _ _ _ _ _ _ => le_trans) l fun _ _ => trivial

theorem foldr_insertAsc_eq {l s : List ℝ} (hp : l.Perm s) (hs : s.Pairwise (· ≤ ·)) :
    l.foldr insertAsc [] = s :=
  List.Perm.eq_of_pairwise (fun _ _ _ _ hab hba => le_antisymm hab hba)
    (foldr_insertAsc_pairwise l) hs ((foldr_insertAsc_perm l).trans hp)

theorem foldr_insertAsc_congr (xs ys : List ℝ) (h : xs.Perm ys) :
    xs.foldr insertAsc [] = ys.foldr insertAsc [] :=
  foldr_insertAsc_eq (h.trans (foldr_insertAsc_perm ys).symm) (foldr_insertAsc_pairwise ys)

theorem median_of_sort_pair {xs : List ℝ} {a b : ℝ} (h : xs.foldr insertAsc [] = [a, b]) :
    median xs = some ((a + b) / 2) := by
  unfold median
  rw [h]
  simp

end SplinkVerif.Lemmas.EM
