import SplinkVerif.Lemmas.EMMBridge
import Mathlib.Tactic.NormNum
/-!
# Concrete instances for the M-step bridge (`Lemmas/EMMBridge.lean`)

* `Ex`  — a model with 2 comparisons (null / exact / else levels) and 4 rows that satisfies
  every hypothesis of `absParamsC_step` and `execLogLik_mono`
  (non-vacuity); the same instance shows that the *position-indexed* abstraction `absParams`
  differs from the abstract step in the never-read slot of a null level (`Ex.null_slot`).
* `Fix` — a level-level `fix_m_probability` flag: one `EM.step` **lowers** the log-likelihood.
* `Dup` — two levels of a comparison carrying the same value: the step differs from the
  abstract step.
* `Nul` — a non-null level carrying the value −1: one `EM.step` lowers the log-likelihood.
* `Sub` — a start that is not sub-normalised: one `EM.step` lowers the log-likelihood
  (finding K8 on the executable model).
* `Shp` — `states` not of the shape of `comps`: the step drops comparisons.

The facts about `Bool`, `ℕ` and `ℤ` (which level a row selects, the observed values, the
well-formedness predicates) are evaluated by the kernel, the real numbers go through `norm_num`.
-/
namespace SplinkVerif.Lemmas.EMMBridge
open SplinkVerif SplinkVerif.Score SplinkVerif.Lemmas.Score
open SplinkVerif.Lemmas SplinkVerif.Lemmas.EMBridge SplinkVerif.Lemmas.EM

noncomputable section

/-- a row of a one-comparison model -/
def row1 (g : List B3) (n : ℕ) : EM.Row ℝ :=
  { pair := { guards := [g], tfl := fun _ => none, tfr := fun _ => none }, count := n }

/-- a row of a two-comparison model -/
def row2 (g0 g1 : List B3) (n : ℕ) : EM.Row ℝ :=
  { pair := { guards := [g0, g1], tfl := fun _ => none, tfr := fun _ => none }, count := n }

theorem execLogLik_pair (θ : EM.Params ℝ) (a b : EM.Row ℝ) (ha : a.count = 1) (hb : b.count = 1) :
    execLogLik θ [a, b] = Real.log (execLik θ a) + Real.log (execLik θ b) := by
  simp [execLogLik, ha, hb]

/-! ## `Ex`: all hypotheses hold -/
namespace Ex

def nullL : Level ℝ := { isNull := true, isElse := false, cvv := -1, m := 0, u := 0, tf := none }
def exactL (m u : ℝ) : Level ℝ :=
  { isNull := false, isElse := false, cvv := 1, m := m, u := u, tf := none }
def elseL (m u : ℝ) : Level ℝ :=
  { isNull := false, isElse := true, cvv := 0, m := m, u := u, tf := none }

/-- prior 1/10; comparison 0: m = (9/10, 1/10), u = (1/10, 9/10); comparison 1:
m = (8/10, 2/10), u = (2/10, 8/10); each with a null level first -/
def θ : EM.Params ℝ where
  prior := 1 / 10
  comps := [[nullL, exactL (9/10) (1/10), elseL (1/10) (9/10)],
            [nullL, exactL (8/10) (2/10), elseL (2/10) (8/10)]]
  states := [[{}, {}, {}], [{}, {}, {}]]

@[simp] theorem θ_comps : θ.comps =
    [[nullL, exactL (9/10) (1/10), elseL (1/10) (9/10)],
     [nullL, exactL (8/10) (2/10), elseL (2/10) (8/10)]] := rfl

def gNull : List B3 := [some true, none, none]
def gExact : List B3 := [some false, some true, none]
def gElse : List B3 := [some false, some false, none]

/-- patterns (1,0)×3, (null,1)×1, (0,0)×2, (1,1)×1 -/
def rows : List (EM.Row ℝ) :=
  [row2 gExact gElse 3, row2 gNull gExact 1, row2 gElse gElse 2, row2 gExact gExact 1]

theorem prior_pos : 0 < θ.prior := by dsimp only [θ]; norm_num1
theorem prior_lt : θ.prior < 1 := by dsimp only [θ]; norm_num1
theorem noTf : NoTf θ := by unfold NoTf; decide +kernel
theorem normalised : Normalised θ := by
  simp only [Normalised, θ_comps, List.forall_mem_singleton, List.forall_mem_cons, List.map_cons,
    List.map_nil, List.sum_cons, List.sum_nil]
  dsimp only [nullL, exactL, elseL]
  norm_num
theorem positive : PositiveMU θ := normalised.positive
theorem subM : SubNormalisedM θ rows := normalised.subM rows
theorem subU : SubNormalisedU θ rows := normalised.subU rows
theorem distinct : DistinctValues θ := by unfold DistinctValues; decide +kernel
theorem nullMinusOne : NullIsMinusOne θ := by unfold NullIsMinusOne; decide +kernel
theorem shape : SameShape θ := by unfold SameShape; decide +kernel
theorem flags : LevelFlagsOff θ := by unfold LevelFlagsOff; decide +kernel
theorem guards : GuardsMatch θ rows := by unfold GuardsMatch; decide +kernel
theorem counts : ∀ r ∈ rows, 0 < r.count := by decide +kernel
theorem total : EveryComparisonAssignsLevel θ rows := by
  unfold EveryComparisonAssignsLevel; decide +kernel

/-- On the position-indexed abstraction the literal equality fails in the slot of a null
level: `EM.step` keeps the stored 0, `EML.emStep` writes the placeholder. -/
theorem null_slot (sess : EM.Session) (hf : sess.fixM = false) :
    ∃ (c : Fin (EM.step sess θ rows).comps.length) (i : Fin (absL (EM.step sess θ rows) c)),
      (absParams (EM.step sess θ rows)).m c i ≠
        (castParams (step_comps_length sess θ rows shape flags)
          (step_absL sess θ rows shape flags) (absStep sess θ rows)).m c i := by
  refine absParams_step_null_slot sess θ rows shape flags hf ⟨0, Nat.zero_lt_succ 1⟩
    ⟨0, Nat.zero_lt_succ 2⟩ rfl ?_
  show (0 : ℝ) ≠ 1 / 1000000
  norm_num

end Ex

/-! ## `Fix`: a level-level fix flag -/
namespace Fix

def lA : Level ℝ := { isNull := false, isElse := false, cvv := 1, m := 1/10, u := 1/10, tf := none }
def lB : Level ℝ := { isNull := false, isElse := true, cvv := 0, m := 9/10, u := 9/10, tf := none }

/-- one comparison, levels `A` (`m = u = 1/10`, `fix_m_probability`) and `B` (else,
`m = u = 9/10`); prior 1/2 -/
def θ : EM.Params ℝ where
  prior := 1 / 2
  comps := [[lA, lB]]
  states := [[{ fixM := true }, {}]]

/-- `u` and the prior fixed for the session, `m` trained -/
def sess : EM.Session := { fixM := false, fixU := true, fixLambda := true }
def rA : EM.Row ℝ := row1 [some true, none] 1
def rB : EM.Row ℝ := row1 [some false, none] 1
def rows : List (EM.Row ℝ) := [rA, rB]

@[simp] theorem θ_comps : θ.comps = [[lA, lB]] := rfl
@[simp] theorem θ_states : θ.states = [[{ fixM := true }, {}]] := rfl
@[simp] theorem θ_prior : θ.prior = 1 / 2 := rfl
@[simp] theorem rA_guards : rA.pair.guards = [[some true, none]] := rfl
@[simp] theorem rB_guards : rB.pair.guards = [[some false, none]] := rfl

theorem prior_pos : 0 < θ.prior := one_half_pos
theorem prior_lt : θ.prior < 1 := one_half_lt_one
theorem noTf : NoTf θ := by unfold NoTf; decide +kernel
theorem normalised : Normalised θ := by
  simp only [Normalised, θ_comps, List.forall_mem_singleton, List.forall_mem_cons, List.map_cons,
    List.map_nil, List.sum_cons, List.sum_nil]
  dsimp only [lA, lB]
  norm_num
theorem positive : PositiveMU θ := normalised.positive
theorem subM : SubNormalisedM θ rows := normalised.subM rows
theorem subU : SubNormalisedU θ rows := normalised.subU rows
theorem distinct : DistinctValues θ := by unfold DistinctValues; decide +kernel
theorem nullMinusOne : NullIsMinusOne θ := by unfold NullIsMinusOne; decide +kernel
theorem shape : SameShape θ := by unfold SameShape; decide +kernel
theorem guards : GuardsMatch θ rows := by unfold GuardsMatch; decide +kernel
theorem counts : ∀ r ∈ rows, 0 < r.count := by decide +kernel
theorem flags_on : ¬ LevelFlagsOff θ := by unfold LevelFlagsOff; decide +kernel
theorem total : EveryComparisonAssignsLevel θ rows := by
  unfold EveryComparisonAssignsLevel; decide +kernel

theorem gA : EM.gammaAt θ rA 0 = some 1 := rfl
theorem gB : EM.gammaAt θ rB 0 = some 0 := rfl
theorem obs : EM.observedValues θ rows 0 = [1, 0] := by decide +kernel

theorem lik_old : execLik θ rA = 1 / 10 ∧ execLik θ rB = 9 / 10 := by
  rw [execLik_one (l := lA) rfl rfl rfl, execLik_one (l := lB) rfl rfl rfl]
  dsimp only [θ, lA, lB]
  norm_num

theorem epA : EM.eProb θ rA = 1 / 2 :=
  eProb_one_of_eq rfl rfl prior_pos prior_lt noTf positive (l := lA) rfl rfl rfl

theorem epB : EM.eProb θ rB = 1 / 2 :=
  eProb_one_of_eq rfl rfl prior_pos prior_lt noTf positive (l := lB) rfl rfl rfl

/-- only `rB` has the value 0; the window sum runs over both rows -/
theorem newM0 : EM.newM θ rows 0 0 = some (1 / 2) := by
  rw [newM_rows θ rows 0 0 (by rw [obs]; decide)]
  show some (([rB].map fun r => EM.eProb θ r * (r.count : ℝ)).sum /
    ([rA, rB].map fun r => EM.eProb θ r * (r.count : ℝ)).sum) = _
  simp only [List.map_cons, List.map_nil, List.sum_cons, List.sum_nil, epA, epB]
  dsimp only [rA, rB, row1]
  norm_num

/-- `A` keeps `m = 1/10`; `B` receives its share `1/2` of the window sum that includes `A` -/
theorem step_comps' : (EM.step sess θ rows).comps = [[lA, { lB with m := 1 / 2 }]] := by
  -- `step_comps` asks for `LevelFlagsOff`, so the step is unfolded on the two levels: `updateLevel` finds
  -- the flag of `A` set and keeps its `m`, and looks `newM0` up for `B`
  simp [EM.step, EM.zipWith3Idx, EM.updateLevel, sess, newM0, List.range_succ, lA, lB]

theorem step_prior : (EM.step sess θ rows).prior = 1 / 2 := step_prior_fixed sess θ rows rfl

theorem lik_new : execLik (EM.step sess θ rows) rA = 1 / 10 ∧
    execLik (EM.step sess θ rows) rB = 7 / 10 := by
  have h1 := congrArg List.length step_comps'
  rw [execLik_one h1 ((rowLevel_single step_comps' rA_guards).trans rfl) (l := lA) rfl,
    execLik_one h1 ((rowLevel_single step_comps' rB_guards).trans rfl)
      (l := { lB with m := 1 / 2 }) rfl, step_prior]
  dsimp only [lA, lB]
  norm_num

theorem decrease : execLogLik (EM.step sess θ rows) rows < execLogLik θ rows := by
  have h0 : execLogLik θ rows = _ := execLogLik_pair θ rA rB rfl rfl
  have h1 : execLogLik (EM.step sess θ rows) rows = _ := execLogLik_pair _ rA rB rfl rfl
  rw [h0, h1, lik_new.1, lik_new.2, lik_old.1, lik_old.2]
  refine add_lt_add_right (Real.log_lt_log ?_ ?_) _
  · norm_num1
  · norm_num1

end Fix

/-! ## `Dup`: two levels with the same value -/
namespace Dup

def lA : Level ℝ := { isNull := false, isElse := false, cvv := 1, m := 1/2, u := 1/2, tf := none }
def lB : Level ℝ := { isNull := false, isElse := false, cvv := 1, m := 1/4, u := 1/4, tf := none }
def lE : Level ℝ := { isNull := false, isElse := true, cvv := 0, m := 1/4, u := 1/4, tf := none }

/-- one comparison whose first two levels both carry the value 1 -/
def θ : EM.Params ℝ where
  prior := 1 / 2
  comps := [[lA, lB, lE]]
  states := [[{}, {}, {}]]

def sess : EM.Session := { fixM := false, fixU := false, fixLambda := false }
def r : EM.Row ℝ := row1 [some true, none, none] 1
def rows : List (EM.Row ℝ) := [r]

@[simp] theorem θ_comps : θ.comps = [[lA, lB, lE]] := rfl
@[simp] theorem θ_states : θ.states = [[{}, {}, {}]] := rfl
@[simp] theorem θ_prior : θ.prior = 1 / 2 := rfl
@[simp] theorem r_guards : r.pair.guards = [[some true, none, none]] := rfl
@[simp] theorem r_count : r.count = 1 := rfl

theorem shape : SameShape θ := by unfold SameShape; decide +kernel
theorem flags : LevelFlagsOff θ := by unfold LevelFlagsOff; decide +kernel
theorem prior_pos : 0 < θ.prior := one_half_pos
theorem prior_lt : θ.prior < 1 := one_half_lt_one
theorem noTf : NoTf θ := by unfold NoTf; decide +kernel
theorem positive : PositiveMU θ := by
  simp only [PositiveMU, θ_comps, List.forall_mem_singleton, List.forall_mem_cons]
  dsimp only [lA, lB, lE]
  norm_num
theorem nullMinusOne : NullIsMinusOne θ := by unfold NullIsMinusOne; decide +kernel
theorem guards : GuardsMatch θ rows := by unfold GuardsMatch; decide +kernel
theorem not_distinct : ¬ DistinctValues θ := by unfold DistinctValues; decide +kernel
theorem total : EveryComparisonAssignsLevel θ rows := by
  unfold EveryComparisonAssignsLevel; decide +kernel

theorem ep : EM.eProb θ r = 1 / 2 :=
  eProb_one_of_eq rfl rfl prior_pos prior_lt noTf positive (l := lA) rfl rfl rfl

theorem obs : EM.observedValues θ rows 0 = [1] := by decide +kernel

/-- the look-up by value gives the second level the first level's estimate -/
theorem newM1 : EM.newM θ rows 0 1 = some 1 := by
  rw [newM_rows θ rows 0 1 (by rw [obs]; decide)]
  show some (([r].map fun r => EM.eProb θ r * (r.count : ℝ)).sum /
    ([r].map fun r => EM.eProb θ r * (r.count : ℝ)).sum) = _
  simp only [List.map_cons, List.map_nil, List.sum_cons, List.sum_nil, ep, r_count]
  norm_num

/-- the second level is not the first carrying the value 1, so no row's pattern points to it -/
theorem not_first : ¬ IsFirst θ ⟨0, by simp⟩ ⟨1, by simp [absL]⟩ := by
  show ¬ findLevel [lA, lB, lE] 1 = some (1 : Fin 3)
  decide +kernel

theorem deviates :
    absParamsC (EM.step sess θ rows) ≠
      castParams (step_comps_length sess θ rows shape flags)
        (step_absL sess θ rows shape flags)
        (EML.emStep sess.fixM sess.fixU sess.fixLambda (1 / 1000000) (rowPatterns θ rows)
          (rowWeights rows) (absParamsC θ)) := by
  refine absParamsC_step_ne sess θ rows shape flags rfl ⟨0, by simp⟩ ⟨1, by simp [absL]⟩ rfl
    not_first ?_
  show (EM.newM θ rows 0 1).getD (1 / 1000000) ≠ 1 / 1000000
  rw [newM1]
  norm_num

end Dup

/-! ## `Nul`: a non-null level carrying −1 -/
namespace Nul

def lA : Level ℝ := { isNull := false, isElse := false, cvv := -1, m := 1/2, u := 1/2, tf := none }
def lE : Level ℝ := { isNull := false, isElse := true, cvv := 0, m := 1/2, u := 1/2, tf := none }

/-- one comparison; its first level is not flagged null but carries the value −1 -/
def θ : EM.Params ℝ where
  prior := 1 / 2
  comps := [[lA, lE]]
  states := [[{}, {}]]

def sess : EM.Session := { fixM := false, fixU := true, fixLambda := true }
def rA : EM.Row ℝ := row1 [some true, none] 1
def rE : EM.Row ℝ := row1 [some false, none] 1
def rows : List (EM.Row ℝ) := [rA, rE]

@[simp] theorem θ_comps : θ.comps = [[lA, lE]] := rfl
@[simp] theorem θ_states : θ.states = [[{}, {}]] := rfl
@[simp] theorem θ_prior : θ.prior = 1 / 2 := rfl
@[simp] theorem rA_guards : rA.pair.guards = [[some true, none]] := rfl
@[simp] theorem rE_guards : rE.pair.guards = [[some false, none]] := rfl

theorem prior_pos : 0 < θ.prior := one_half_pos
theorem prior_lt : θ.prior < 1 := one_half_lt_one
theorem noTf : NoTf θ := by unfold NoTf; decide +kernel
theorem normalised : Normalised θ := by
  simp only [Normalised, θ_comps, List.forall_mem_singleton, List.forall_mem_cons, List.map_cons,
    List.map_nil, List.sum_cons, List.sum_nil]
  dsimp only [lA, lE]
  norm_num
theorem positive : PositiveMU θ := normalised.positive
theorem subM : SubNormalisedM θ rows := normalised.subM rows
theorem subU : SubNormalisedU θ rows := normalised.subU rows
theorem distinct : DistinctValues θ := by unfold DistinctValues; decide +kernel
theorem not_nullMinusOne : ¬ NullIsMinusOne θ := by unfold NullIsMinusOne; decide +kernel
theorem shape : SameShape θ := by unfold SameShape; decide +kernel
theorem flags : LevelFlagsOff θ := by unfold LevelFlagsOff; decide +kernel
theorem guards : GuardsMatch θ rows := by unfold GuardsMatch; decide +kernel
theorem counts : ∀ r ∈ rows, 0 < r.count := by decide +kernel
theorem total : EveryComparisonAssignsLevel θ rows := by
  unfold EveryComparisonAssignsLevel; decide +kernel

theorem lik_old : execLik θ rA = 1 / 2 ∧ execLik θ rE = 1 / 2 := by
  rw [execLik_one (l := lA) rfl rfl rfl, execLik_one (l := lE) rfl rfl rfl]
  dsimp only [θ, lA, lE]
  norm_num

theorem epA : EM.eProb θ rA = 1 / 2 :=
  eProb_one_of_eq rfl rfl prior_pos prior_lt noTf positive (l := lA) rfl rfl rfl

theorem epE : EM.eProb θ rE = 1 / 2 :=
  eProb_one_of_eq rfl rfl prior_pos prior_lt noTf positive (l := lE) rfl rfl rfl

theorem obs : EM.observedValues θ rows 0 = [0] := by decide +kernel

/-- the row on the level carrying −1 is dropped from the window with the null rows -/
theorem newM0 : EM.newM θ rows 0 0 = some 1 := by
  rw [newM_rows θ rows 0 0 (by rw [obs]; decide)]
  show some (([rE].map fun r => EM.eProb θ r * (r.count : ℝ)).sum /
    ([rE].map fun r => EM.eProb θ r * (r.count : ℝ)).sum) = _
  simp only [List.map_cons, List.map_nil, List.sum_cons, List.sum_nil, epE]
  dsimp only [rE, row1]
  norm_num

/-- … and the level gets the placeholder -/
theorem newMm1 : EM.newM θ rows 0 (-1) = none :=
  newM_of_not_mem θ rows 0 (-1) (by rw [obs]; decide)

theorem step_prior : (EM.step sess θ rows).prior = 1 / 2 := step_prior_fixed sess θ rows rfl

theorem lik_new : execLik (EM.step sess θ rows) rA = 500001 / 2000000 ∧
    execLik (EM.step sess θ rows) rE = 3 / 4 := by
  rw [execLik_step_one sess rows rfl shape flags (l := lA) rfl rfl,
    execLik_step_one sess rows rfl shape flags (l := lE) rfl rfl, step_prior]
  simp only [newLevel_m, newLevel_u, sess, lA, lE, newM0, newMm1, Option.getD_some,
    Option.getD_none, Bool.false_eq_true, if_false, if_true]
  norm_num

theorem decrease : execLogLik (EM.step sess θ rows) rows < execLogLik θ rows := by
  have h0 : execLogLik θ rows = _ := execLogLik_pair θ rA rE rfl rfl
  have h1 : execLogLik (EM.step sess θ rows) rows = _ := execLogLik_pair _ rA rE rfl rfl
  rw [h0, h1, lik_new.1, lik_new.2, lik_old.1, lik_old.2,
    ← Real.log_mul (by norm_num1) (by norm_num1), ← Real.log_mul (by norm_num1) (by norm_num1)]
  exact Real.log_lt_log (by norm_num1) (by norm_num1)

end Nul

/-! ## `Sub`: a start that is not sub-normalised (K8) -/
namespace Sub

def lA : Level ℝ := { isNull := false, isElse := false, cvv := 1, m := 2, u := 2, tf := none }
def lE : Level ℝ := { isNull := false, isElse := true, cvv := 0, m := 1/2, u := 1/2, tf := none }

/-- one comparison whose observed level starts at `m = u = 2` -/
def θ : EM.Params ℝ where
  prior := 1 / 2
  comps := [[lA, lE]]
  states := [[{}, {}]]

def sess : EM.Session := { fixM := false, fixU := false, fixLambda := false }
def r : EM.Row ℝ := row1 [some true, none] 1
def rows : List (EM.Row ℝ) := [r]

@[simp] theorem θ_comps : θ.comps = [[lA, lE]] := rfl
@[simp] theorem θ_states : θ.states = [[{}, {}]] := rfl
@[simp] theorem θ_prior : θ.prior = 1 / 2 := rfl
@[simp] theorem r_guards : r.pair.guards = [[some true, none]] := rfl
@[simp] theorem r_count : r.count = 1 := rfl

theorem prior_pos : 0 < θ.prior := one_half_pos
theorem prior_lt : θ.prior < 1 := one_half_lt_one
theorem noTf : NoTf θ := by unfold NoTf; decide +kernel
theorem positive : PositiveMU θ := by
  simp only [PositiveMU, θ_comps, List.forall_mem_singleton, List.forall_mem_cons]
  dsimp only [lA, lE]
  norm_num
theorem distinct : DistinctValues θ := by unfold DistinctValues; decide +kernel
theorem nullMinusOne : NullIsMinusOne θ := by unfold NullIsMinusOne; decide +kernel
theorem shape : SameShape θ := by unfold SameShape; decide +kernel
theorem flags : LevelFlagsOff θ := by unfold LevelFlagsOff; decide +kernel
theorem guards : GuardsMatch θ rows := by unfold GuardsMatch; decide +kernel
theorem counts : ∀ r' ∈ rows, 0 < r'.count := by decide +kernel
theorem total : EveryComparisonAssignsLevel θ rows := by
  unfold EveryComparisonAssignsLevel; decide +kernel

theorem lik_old : execLik θ r = 2 := by
  rw [execLik_one (l := lA) rfl rfl rfl]
  dsimp only [θ, lA]
  norm_num1

theorem ep : EM.eProb θ r = 1 / 2 :=
  eProb_one_of_eq rfl rfl prior_pos prior_lt noTf positive (l := lA) rfl rfl rfl

theorem obs : EM.observedValues θ rows 0 = [1] := by decide +kernel

theorem newM1 : EM.newM θ rows 0 1 = some 1 := by
  rw [newM_rows θ rows 0 1 (by rw [obs]; decide)]
  show some (([r].map fun r => EM.eProb θ r * (r.count : ℝ)).sum /
    ([r].map fun r => EM.eProb θ r * (r.count : ℝ)).sum) = _
  simp only [List.map_cons, List.map_nil, List.sum_cons, List.sum_nil, ep, r_count]
  norm_num

theorem newU1 : EM.newU θ rows 0 1 = some 1 := by
  rw [newU_rows θ rows 0 1 (by rw [obs]; decide)]
  show some (([r].map fun r => (1 - EM.eProb θ r) * (r.count : ℝ)).sum /
    ([r].map fun r => (1 - EM.eProb θ r) * (r.count : ℝ)).sum) = _
  simp only [List.map_cons, List.map_nil, List.sum_cons, List.sum_nil, ep, r_count]
  norm_num

theorem step_prior : (EM.step sess θ rows).prior = 1 / 2 := by
  show EM.lambdaNew θ rows = _
  rw [lambdaNew_eq]
  simp only [rows, List.map_cons, List.map_nil, List.sum_cons, List.sum_nil, ep, r_count]
  norm_num1

theorem lik_new : execLik (EM.step sess θ rows) r = 1 := by
  rw [execLik_step_one sess rows rfl shape flags (l := lA) rfl rfl, step_prior]
  simp only [newLevel_m, newLevel_u, sess, lA, newM1, newU1, Option.getD_some,
    Bool.false_eq_true, if_false]
  norm_num1

theorem decrease : execLogLik (EM.step sess θ rows) rows < execLogLik θ rows := by
  have e : ∀ θ' : EM.Params ℝ, execLogLik θ' rows = Real.log (execLik θ' r) := by
    intro θ'; simp [execLogLik, rows]
  rw [e, e, lik_new, lik_old, Real.log_one]
  exact Real.log_pos (by norm_num1)

theorem not_subM : ¬ SubNormalisedM θ rows := by
  intro h
  have := h 0 Nat.one_pos
  rw [obs] at this
  norm_num [List.filter, lA, lE] at this

end Sub

/-! ## `Shp`: `states` shorter than `comps` -/
namespace Shp

/-- the model of `Sub` with the `states` of its comparison missing -/
def θ : EM.Params ℝ where
  prior := 1 / 2
  comps := [[Sub.lA, Sub.lE]]
  states := []

theorem not_shape : ¬ SameShape θ := by simp [SameShape, θ]

/-- the step drops the comparison -/
theorem drops (sess : EM.Session) (rows : List (EM.Row ℝ)) :
    (EM.step sess θ rows).comps.length ≠ θ.comps.length := by
  simp [EM.step, EM.zipWith3Idx, θ]

end Shp

end

end SplinkVerif.Lemmas.EMMBridge
