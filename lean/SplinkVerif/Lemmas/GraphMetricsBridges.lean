import SplinkVerif.Lemmas.GraphMetrics
/-!
# The reference bridge finder `naiveBridges`

What `Properties/C19Bridges.lean` needs to show that the executable edge-removal + reachability
search (`relax` / `reachLoop` on a Boolean array, `nv + 1` rounds) is sound and complete: one
`relaxStep`, one pass, the loop, the vertex bound, and membership in `naiveBridges`.
-/
namespace SplinkVerif.Lemmas.GM
open SplinkVerif SplinkVerif.GraphMetrics

/-- Is vertex `v` marked in the Boolean array. -/
def mk (vis : Array Bool) (v : Nat) : Bool := vis.getD v false

/-- The body of the `foldl` in `relax`. -/
def relaxStep (st : Array Bool × Bool) (e : Nat × Nat) : Array Bool × Bool :=
  let a := st.1.getD e.1 false
  let b := st.1.getD e.2 false
  if a && !b then (st.1.setIfInBounds e.2 true, true)
  else if b && !a then (st.1.setIfInBounds e.1 true, true)
  else st

theorem relax_eq_foldl (g : List (Nat × Nat)) (vis : Array Bool) :
    relax g vis = g.foldl relaxStep (vis, false) := rfl

theorem mk_mark (vis : Array Bool) {w : Nat} (hw : w < vis.size) (v : Nat) :
    mk (vis.setIfInBounds w true) v = true ↔ v = w ∨ mk vis v = true := by
  unfold mk
  rw [Array.getD_eq_getD_getElem?, Array.getD_eq_getD_getElem?, Array.getElem?_setIfInBounds]
  by_cases h : w = v
  · subst h
    simp [hw]
  · simp [h, Ne.symm h]

theorem mk_replicate (n v : Nat) : mk (Array.replicate n false) v = false := by
  unfold mk
  rw [Array.getD_eq_getD_getElem?, Array.getElem?_replicate]
  split <;> rfl

theorem mk_lt {vis : Array Bool} {v : Nat} (h : mk vis v = true) : v < vis.size := by
  by_contra hlt
  rw [mk, Array.getD_eq_getD_getElem?, Array.getElem?_eq_none (Nat.le_of_not_lt hlt)] at h
  exact Bool.false_ne_true h

theorem relaxStep_eq (vis : Array Bool) (fl : Bool) (e : Nat × Nat) :
    relaxStep (vis, fl) e =
      if mk vis e.1 = true ∧ mk vis e.2 = false then (vis.setIfInBounds e.2 true, true)
      else if mk vis e.2 = true ∧ mk vis e.1 = false then (vis.setIfInBounds e.1 true, true)
      else (vis, fl) := by
  unfold relaxStep mk
  cases vis.getD e.1 false <;> cases vis.getD e.2 false <;> simp

/-- One step on an edge inside the array.  Last clause: the step either does nothing (the endpoints are
marked alike) or raises the flag and marks a vertex that was not marked. -/
theorem relaxStep_spec (st : Array Bool × Bool) (e : Nat × Nat)
    (h1 : e.1 < st.1.size) (h2 : e.2 < st.1.size) :
    (relaxStep st e).1.size = st.1.size ∧
    (∀ v, mk st.1 v = true → mk (relaxStep st e).1 v = true) ∧
    (∀ v, mk (relaxStep st e).1 v = true →
      mk st.1 v = true ∨ (v = e.2 ∧ mk st.1 e.1 = true) ∨ (v = e.1 ∧ mk st.1 e.2 = true)) ∧
    ((relaxStep st e = st ∧ mk st.1 e.1 = mk st.1 e.2) ∨
      ((relaxStep st e).2 = true ∧
        ∃ b, b < st.1.size ∧ mk st.1 b = false ∧ mk (relaxStep st e).1 b = true)) := by
  obtain ⟨vis, fl⟩ := st
  cases ha : mk vis e.1 <;> cases hb : mk vis e.2
  · have hE : relaxStep (vis, fl) e = (vis, fl) := by
      rw [relaxStep_eq]
      simp [ha, hb]
    rw [hE]
    exact ⟨rfl, fun _ h => h, fun _ h => Or.inl h, Or.inl ⟨rfl, rfl⟩⟩
  · have hE : relaxStep (vis, fl) e = (vis.setIfInBounds e.1 true, true) := by
      rw [relaxStep_eq]
      simp [ha, hb]
    rw [hE]
    exact ⟨Array.size_setIfInBounds, fun v hv => (mk_mark vis h1 v).mpr (Or.inr hv),
      fun v hv => ((mk_mark vis h1 v).mp hv).elim (fun h => Or.inr (Or.inr ⟨h, rfl⟩)) Or.inl,
      Or.inr ⟨rfl, e.1, h1, ha, (mk_mark vis h1 _).mpr (Or.inl rfl)⟩⟩
  · have hE : relaxStep (vis, fl) e = (vis.setIfInBounds e.2 true, true) := by
      rw [relaxStep_eq]
      simp [ha, hb]
    rw [hE]
    exact ⟨Array.size_setIfInBounds, fun v hv => (mk_mark vis h2 v).mpr (Or.inr hv),
      fun v hv => ((mk_mark vis h2 v).mp hv).elim (fun h => Or.inr (Or.inl ⟨h, rfl⟩)) Or.inl,
      Or.inr ⟨rfl, e.2, h2, hb, (mk_mark vis h2 _).mpr (Or.inl rfl)⟩⟩
  · have hE : relaxStep (vis, fl) e = (vis, fl) := by
      rw [relaxStep_eq]
      simp [ha, hb]
    rw [hE]
    exact ⟨rfl, fun _ h => h, fun _ h => Or.inl h, Or.inl ⟨rfl, rfl⟩⟩

/-- One pass, stated for any list `l` of rows of `g` so that the induction on `l` goes through.  Last clause:
the pass either does nothing, and then the marks are closed under `l`, or raises the flag and marks a vertex that
was not marked. -/
theorem relaxFold_spec (g : List (Nat × Nat)) (n : Nat) (l : List (Nat × Nat))
    (hl : ∀ e ∈ l, e ∈ g ∧ e.1 < n ∧ e.2 < n) :
    ∀ (st : Array Bool × Bool), st.1.size = n →
    (l.foldl relaxStep st).1.size = n ∧
    (∀ v, mk st.1 v = true → mk (l.foldl relaxStep st).1 v = true) ∧
    (∀ s, (∀ v, mk st.1 v = true → Reach (AdjL g) s v) →
      ∀ v, mk (l.foldl relaxStep st).1 v = true → Reach (AdjL g) s v) ∧
    ((l.foldl relaxStep st = st ∧ ∀ e ∈ l, mk st.1 e.1 = mk st.1 e.2) ∨
      ((l.foldl relaxStep st).2 = true ∧
        ∃ b, b < n ∧ mk st.1 b = false ∧ mk (l.foldl relaxStep st).1 b = true)) := by
  induction l with
  | nil => exact fun st hst => ⟨hst, fun _ h => h, fun _ h => h, Or.inl ⟨rfl, fun _ h => nomatch h⟩⟩
  | cons e t ih =>
    intro st hst
    obtain ⟨heg, he1, he2⟩ := hl e (List.mem_cons_self ..)
    obtain ⟨s1, s2, s3, s4⟩ := relaxStep_spec st e (hst ▸ he1) (hst ▸ he2)
    obtain ⟨f1, f2, f3, f4⟩ :=
      ih (fun x hx => hl x (List.mem_cons_of_mem _ hx)) (relaxStep st e) (s1.trans hst)
    rw [List.foldl_cons]
    refine ⟨f1, fun v hv => f2 v (s2 v hv), fun s hs => f3 s fun w hw => ?_, ?_⟩
    · rcases s3 w hw with h | ⟨rfl, h⟩ | ⟨rfl, h⟩
      · exact hs w h
      · exact Reach.tail (hs _ h) (Or.inl heg)
      · exact Reach.tail (hs _ h) (Or.inr heg)
    · rcases s4 with ⟨hst', heq⟩ | ⟨hfl, b, hb, hb0, hb1⟩
      · rw [hst'] at f4 ⊢
        exact f4.imp_left fun ⟨g1, g2⟩ => ⟨g1, List.forall_mem_cons.mpr ⟨heq, g2⟩⟩
      · -- the later steps keep the flag and the mark
        rcases f4 with ⟨g1, _⟩ | ⟨gfl, _⟩
        · rw [g1]
          exact Or.inr ⟨hfl, b, hst ▸ hb, hb0, hb1⟩
        · exact Or.inr ⟨gfl, b, hst ▸ hb, hb0, f2 b hb1⟩

/-- Number of marked vertices below `n`. -/
def cnt (n : Nat) (vis : Array Bool) : Nat := (List.range n).countP (mk vis)

theorem cnt_le (n : Nat) (vis : Array Bool) : cnt n vis ≤ n :=
  List.countP_le_length.trans List.length_range.le

/-- The vertices marked by `reachLoop` are closed under the edges once the fuel exceeds the number
of unmarked vertices; they are always reachable, and marks are never removed. -/
theorem reachLoop_spec (g : List (Nat × Nat)) (n : Nat) (hg : ∀ e ∈ g, e.1 < n ∧ e.2 < n) :
    ∀ (fuel : Nat) (vis : Array Bool), vis.size = n →
    (∀ v, mk vis v = true → mk (reachLoop g fuel vis) v = true) ∧
    (∀ s, (∀ v, mk vis v = true → Reach (AdjL g) s v) →
      ∀ v, mk (reachLoop g fuel vis) v = true → Reach (AdjL g) s v) ∧
    (n - cnt n vis < fuel → ∀ e ∈ g, mk (reachLoop g fuel vis) e.1 = mk (reachLoop g fuel vis) e.2) := by
  have hl : ∀ e ∈ g, e ∈ g ∧ e.1 < n ∧ e.2 < n := fun e he => ⟨he, hg e he⟩
  intro fuel
  induction fuel with
  | zero =>
    intro vis _
    exact ⟨fun _ h => h, fun _ h => h, fun h => by omega⟩
  | succ fuel ih =>
    intro vis hvis
    obtain ⟨f1, f2, f3, f4⟩ := relaxFold_spec g n g hl (vis, false) hvis
    rw [← relax_eq_foldl] at f1 f2 f3 f4
    rw [reachLoop]
    rcases f4 with ⟨g1, g2⟩ | ⟨hfl, b, hb, hb0, hb1⟩
    · rw [g1, if_neg Bool.false_ne_true]
      exact ⟨fun _ h => h, fun _ hs => hs, fun _ => g2⟩
    · rw [if_pos hfl]
      obtain ⟨i1, i2, i3⟩ := ih (relax g vis).1 f1
      refine ⟨fun v hv => i1 v (f2 v hv), fun s hs => i2 s (f3 s hs), fun hfuel => i3 ?_⟩
      -- the pass marked a vertex below `n` that was not marked
      have hlt : cnt n vis < cnt n (relax g vis).1 :=
        Lists.countP_lt_of_witness _ _ _ (fun x _ hx => f2 x hx) b (List.mem_range.mpr hb) hb0 hb1
      have := cnt_le n (relax g vis).1
      omega

/-- The vertex bound computed by `naiveBridges`. -/
def vbound (g : List (Nat × Nat)) : Nat := g.foldl (fun m e => max m (max e.1 e.2 + 1)) 0

theorem lt_vbound {g : List (Nat × Nat)} {e : Nat × Nat} (he : e ∈ g) :
    e.1 < vbound g ∧ e.2 < vbound g := by
  have := (Lists.foldl_max_spec 0 (g.map fun e => max e.1 e.2 + 1)).2 _
    (List.mem_cons_of_mem _ (List.mem_map_of_mem he))
  rw [List.foldl_map] at this
  unfold vbound
  omega

/-- The search `naiveBridges` runs for row `e` of `g` with row `k` removed. -/
def searchFrom (g : List (Nat × Nat)) (k : Nat) (e : Nat × Nat) : Array Bool :=
  reachLoop (g.eraseIdx k) (vbound g + 1)
    ((Array.replicate (vbound g) false).setIfInBounds e.1 true)

theorem mem_naiveBridges (g : List (Nat × Nat)) (k : Nat) :
    k ∈ naiveBridges g ↔ ∃ e, g[k]? = some e ∧ mk (searchFrom g k e) e.2 = false := by
  unfold naiveBridges
  rw [List.mem_filter, List.mem_range]
  cases h : g[k]? with
  | none => exact ⟨fun h => absurd h.2 Bool.false_ne_true, fun ⟨_, h, _⟩ => nomatch h⟩
  | some e =>
    simp only [(List.getElem?_eq_some_iff.mp h).1, true_and, Bool.not_eq_true', Option.some.injEq,
      exists_eq_left']
    rfl

end SplinkVerif.Lemmas.GM
