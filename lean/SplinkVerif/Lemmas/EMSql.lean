import Mathlib.Data.List.Nodup
import Mathlib.Data.List.Perm.Basic
import Mathlib.Data.List.Forall2
import Mathlib.Algebra.Order.Field.Rat
import Mathlib.Algebra.BigOperators.Group.List.Basic
import Mathlib.Data.Rat.Cast.CharZero
import Mathlib.Tactic.Ring
import SplinkVerif.Lemmas.Rel
import SplinkVerif.Lemmas.EMSums
import SplinkVerif.Model.EMSql
/-!
# The regenerated M-step SQL of `expectation_maximisation.py`, statement by statement

What the relational-algebra terms of `Generated/EMSql.lean` return under `Rel.eval`, for every table:

| statement                                        | lemma                  | result                                              |
|--------------------------------------------------|------------------------|-----------------------------------------------------|
| `countsBlockApc name` / `countsBlockRows name`   | `countsBlock_eval`     | one row per distinct gamma value: `mSpecW`, `uSpecW`|
| `lambdaBlockApc` / `lambdaBlockRows`             | `lambdaBlock_eval`     | `lambdaRow` (NULLs iff the total weight is 0)       |
| `mUCounts`                                       | `mUCounts_eval`        | the blocks (`countsC`), then the lambda row         |
| `proportions`                                    | `proportions_eval`     | `propRow` per kept row, then the lambda rows        |

The two variants of a block are one term up to the weight expression `wtE` (`countsBlock_def`, `lambdaBlock_def`), so each
block is evaluated once for both.  With pairwise distinct names the partition of a comparison is its own block
(`filter_countsC`, `propRow_countsC`).  Last, the relation `Linked` between a row of `__splink__df_predict` and a row of
`Model/EM.lean`, under which rational sums over the former cast to real sums over the latter (`cast_sum_filter`).
-/
namespace SplinkVerif.Lemmas.EMSql
open SplinkVerif SplinkVerif.Rel SplinkVerif.Lemmas.Rel SplinkVerif.EMSql

/-! ## Sums over two lists related element by element -/

theorem cast_sum_filter {α β : Type} {R : α → β → Prop} {l₁ : List α} {l₂ : List β} (h : List.Forall₂ R l₁ l₂)
    (p : α → Bool) (q : β → Bool) (f : α → ℚ) (g : β → ℝ) (hpq : ∀ a b, R a b → p a = q b)
    (hfg : ∀ a b, R a b → ((f a : ℚ) : ℝ) = g b) :
    ((((l₁.filter p).map f).sum : ℚ) : ℝ) = ((l₂.filter q).map g).sum := by
  induction h with
  | nil => simp
  | @cons a b _ _ hab _ ih =>
    rw [List.filter_cons, List.filter_cons, hpq a b hab]
    cases q b
    · exact ih
    · simp only [if_true, List.map_cons, List.sum_cons, Rat.cast_add, ih, hfg a b hab]

/-! ## Specification on the abstract rows -/

/-- `'_probability_two_random_records_match'` -/
def lamName : String := "_probability_two_random_records_match"

/-- The gamma value of comparison `ci` as `predictIn` reads it. -/
def gam (ci : Nat) (r : PRow) : Int := r.gammas.getD ci 0

/-- The weight of a row: `agreement_pattern_count`, or the literal `1` of the row-wise variant. -/
def wt (useApc : Bool) (r : PRow) : Nat := if useApc then r.count else 1

theorem mul_wt_false (x : Rat) (r : PRow) : x * (wt false r : Rat) = x := by
  rw [show wt false r = 1 from rfl, Nat.cast_one, mul_one]

/-- `m_count` of the group `gamma_ci = v`: `sum(match_probability * w)`. -/
def mSpecW (useApc : Bool) (rows : List PRow) (ci : Nat) (v : Int) : Rat :=
  ((rows.filter fun r => gam ci r == v).map fun r => r.p * (wt useApc r : Rat)).sum

/-- `u_count` of the group `gamma_ci = v`: `sum((1 - match_probability) * w)`. -/
def uSpecW (useApc : Bool) (rows : List PRow) (ci : Nat) (v : Int) : Rat :=
  ((rows.filter fun r => gam ci r == v).map fun r => (1 - r.p) * (wt useApc r : Rat)).sum

/-- `mSpecW true` written out. -/
def mSpec (rows : List PRow) (ci : Nat) (v : Int) : Rat :=
  ((rows.filter fun r => gam ci r == v).map fun r => r.p * (r.count : Rat)).sum

def uSpec (rows : List PRow) (ci : Nat) (v : Int) : Rat :=
  ((rows.filter fun r => gam ci r == v).map fun r => (1 - r.p) * (r.count : Rat)).sum

theorem mSpecW_true (rows : List PRow) (ci : Nat) (v : Int) : mSpecW true rows ci v = mSpec rows ci v := rfl
theorem uSpecW_true (rows : List PRow) (ci : Nat) (v : Int) : uSpecW true rows ci v = uSpec rows ci v := rfl

/-- The distinct gamma values of comparison `ci`, in the order of first occurrence (`GROUP BY gamma`). -/
def gammaValues (rows : List PRow) (ci : Nat) : List Int := (rows.map (gam ci)).eraseDups

theorem mem_gammaValues (rows : List PRow) (ci : Nat) (v : Int) :
    v ∈ gammaValues rows ci ↔ ∃ r ∈ rows, gam ci r = v := by
  unfold gammaValues
  rw [List.mem_eraseDups, List.mem_map]

/-- SQL division of two exact numbers: NULL when the divisor is 0. -/
def divV (a b : Rat) : Val := if b = 0 then .null else .rat (a / b)

def totalP (useApc : Bool) (rows : List PRow) : Rat := (rows.map fun r => r.p * (wt useApc r : Rat)).sum
def totalQ (useApc : Bool) (rows : List PRow) : Rat := (rows.map fun r => (1 - r.p) * (wt useApc r : Rat)).sum
def totalW (useApc : Bool) (rows : List PRow) : Nat := (rows.map (wt useApc)).sum

/-- The row of the lambda block.  On the empty table, and when all weights are 0, the two numbers are NULL. -/
def lambdaRow (useApc : Bool) (rows : List PRow) : Row :=
  [.int 0, divV (totalP useApc rows) (totalW useApc rows), divV (totalQ useApc rows) (totalW useApc rows),
    .str lamName]

/-- A row `(comparison_vector_value, m_count, u_count, output_column_name)` of a counts table. -/
structure CRow where
  v : Int
  m : Rat
  u : Rat
  name : String

def encC (c : CRow) : Row := [.int c.v, .rat c.m, .rat c.u, .str c.name]

def blockC (useApc : Bool) (names : List String) (rows : List PRow) (ci : Nat) : List CRow :=
  (gammaValues rows ci).map fun v => ⟨v, mSpecW useApc rows ci v, uSpecW useApc rows ci v, names.getD ci ""⟩

/-- The non-lambda rows of `__splink__m_u_counts` before encoding. -/
def countsC (useApc : Bool) (names : List String) (rows : List PRow) : List CRow :=
  (List.range names.length).flatMap (blockC useApc names rows)

/-! ## SQL division -/

theorem div_rat_nat (a : Rat) (n : Nat) : Arith.div.eval (Val.rat a) (Val.int (n : Int)) = divV a (n : Rat) := by
  simp [Arith.eval, Val.toRat?, divV]

theorem div_rat_rat (a b : Rat) : Arith.div.eval (Val.rat a) (Val.rat b) = divV a b := by
  simp [Arith.eval, Val.toRat?, divV]

theorem divV_of_ne {a b : Rat} (h : b ≠ 0) : divV a b = .rat (a / b) := if_neg h

theorem divV_zero (a : Rat) : divV a 0 = .null := if_pos rfl

theorem divV_eq_null {a b : Rat} : divV a b = .null ↔ b = 0 := by
  unfold divV
  split <;> simp [*]

theorem divV_eq_rat {a b q : Rat} (h : divV a b = .rat q) : b ≠ 0 ∧ q = a / b := by
  unfold divV at h
  split at h
  · cases h
  · rename_i hb
    injection h with h
    exact ⟨hb, h.symm⟩

/-! ## Part 1: the blocks of `compute_new_parameters_sql` -/

/-- A row of `predict_in` for comparison `ci`. -/
def encP (ci : Nat) (r : PRow) : Row := [Val.int (gam ci r), Val.rat r.p, Val.int (r.count : Int)]

/-- The database `mUCounts` evaluates the blocks of comparison `ci` on. -/
theorem set_predictIn (rows : List PRow) (ci : Nat) :
    Db.set (fun _ => []) "predict_in" (predictIn rows ci) "predict_in" = rows.map (encP ci) :=
  set_same _ _ _

def countsBlock (useApc : Bool) (name : Val) : Rel :=
  if useApc then Gen.EMSql.countsBlockApc name else Gen.EMSql.countsBlockRows name

def lambdaBlock (useApc : Bool) : Rel :=
  if useApc then Gen.EMSql.lambdaBlockApc else Gen.EMSql.lambdaBlockRows

/-- The two variants differ in the weight only: the column `agreement_pattern_count`, or the literal `1`. -/
def wtE (useApc : Bool) : Expr := if useApc then Expr.col 2 else Expr.lit (Val.int 1)

/-- `match_probability * w` -/
def mE (useApc : Bool) : Expr := Expr.arith Arith.mul (Expr.col 1) (wtE useApc)

/-- `(1 - match_probability) * w` -/
def uE (useApc : Bool) : Expr :=
  Expr.arith Arith.mul (Expr.arith Arith.sub (Expr.lit (Val.int 1)) (Expr.col 1)) (wtE useApc)

theorem countsBlock_def (useApc : Bool) (name : Val) :
    countsBlock useApc name = Rel.project [Expr.col 0, Expr.col 1, Expr.col 2, Expr.lit name]
      (Rel.groupBy [Expr.col 0] [Agg.sum (mE useApc), Agg.sum (uE useApc)] (Rel.table "predict_in")) := by
  cases useApc <;> rfl

theorem lambdaBlock_def (useApc : Bool) :
    lambdaBlock useApc = Rel.project [Expr.lit (Val.int 0), Expr.arith Arith.div (Expr.col 0) (Expr.col 1),
        Expr.arith Arith.div (Expr.col 2) (Expr.col 1), Expr.lit (Val.str lamName)]
      (Rel.groupBy [] [Agg.sum (mE useApc), Agg.sum (wtE useApc), Agg.sum (uE useApc)] (Rel.table "predict_in")) := by
  cases useApc <;> rfl

theorem wtE_eval (useApc : Bool) (ci : Nat) (r : PRow) :
    (wtE useApc).eval (encP ci r) = .int (wt useApc r : Int) := by
  cases useApc <;> rfl

theorem mE_eval (useApc : Bool) (ci : Nat) (r : PRow) :
    (mE useApc).eval (encP ci r) = .rat (r.p * (wt useApc r : Rat)) := by
  show Arith.mul.eval (Val.rat r.p) ((wtE useApc).eval (encP ci r)) = _
  rw [wtE_eval, mul_rat_nat]

theorem uE_eval (useApc : Bool) (ci : Nat) (r : PRow) :
    (uE useApc).eval (encP ci r) = .rat ((1 - r.p) * (wt useApc r : Rat)) := by
  show Arith.mul.eval (Arith.sub.eval (Val.int 1) (Val.rat r.p)) ((wtE useApc).eval (encP ci r)) = _
  rw [wtE_eval, show Arith.sub.eval (Val.int 1) (Val.rat r.p) = Val.rat (1 - r.p) by simp [Arith.eval, Val.toRat?],
    mul_rat_nat]

theorem countsBlock_eval (useApc : Bool) {db : Db} {rows : List PRow} {ci : Nat}
    (hdb : db "predict_in" = rows.map (encP ci)) (name : String) :
    (countsBlock useApc (.str name)).eval db =
      (gammaValues rows ci).map fun v => encC ⟨v, mSpecW useApc rows ci v, uSpecW useApc rows ci v, name⟩ := by
  rw [countsBlock_def, eval_project, eval_groupBy, eval_table, hdb,
    groupRows_int_key (key := gam ci) (fun _ => rfl), List.map_map]
  apply List.map_congr_left
  intro v hv
  -- a group is never empty, so its sums are numbers
  have hne : (rows.filter fun r => gam ci r == v) ≠ [] := by
    obtain ⟨r, hr, hrv⟩ := (mem_gammaValues rows ci v).mp hv
    exact List.ne_nil_of_mem (List.mem_filter.mpr ⟨hr, beq_iff_eq.mpr hrv⟩)
  simp only [Function.comp, List.map_cons, List.map_nil, aggSum_rat (mE_eval useApc ci), aggSum_rat (uE_eval useApc ci),
    if_neg hne]
  rfl

theorem lambdaBlock_eval (useApc : Bool) {db : Db} {rows : List PRow} {ci : Nat}
    (hdb : db "predict_in" = rows.map (encP ci)) : (lambdaBlock useApc).eval db = [lambdaRow useApc rows] := by
  rw [lambdaBlock_def, eval_project, eval_groupBy, eval_table, hdb]
  show [[Val.int 0, Arith.div.eval ((Agg.sum (mE useApc)).eval _) ((Agg.sum (wtE useApc)).eval _),
    Arith.div.eval ((Agg.sum (uE useApc)).eval _) ((Agg.sum (wtE useApc)).eval _), Val.str lamName]] = _
  rw [aggSum_rat (mE_eval useApc ci), aggSum_rat (uE_eval useApc ci), aggSum_nat (wtE_eval useApc ci)]
  by_cases hr : rows = []
  · subst hr
    rfl
  · rw [if_neg hr, if_neg hr, if_neg hr, div_rat_nat, div_rat_nat]
    rfl

/-! ## Part 2: `compute_proportions_for_new_parameters_sql` -/

/-- `where comparison_vector_value != -1 and output_column_name != '_probability_two_random_records_match'` -/
def keep (c : CRow) : Bool := c.v != -1 && c.name != lamName

/-- `sum(m_count) over (partition by output_column_name)` after the `where`. -/
def denM (L : List CRow) (nm : String) : Rat := ((L.filter fun c => c.v != -1 && c.name == nm).map (·.m)).sum
def denU (L : List CRow) (nm : String) : Rat := ((L.filter fun c => c.v != -1 && c.name == nm).map (·.u)).sum

def propRow (L : List CRow) (c : CRow) : Row :=
  [.int c.v, .str c.name, divV c.m (denM L c.name), divV c.u (denU L c.name)]

/-- The second branch's projection `comparison_vector_value, output_column_name, m_count, u_count`. -/
def lamOut (r : Row) : Row := [r.getD 0 .null, r.getD 3 .null, r.getD 1 .null, r.getD 2 .null]

def keepE : Expr :=
  Expr.and (Expr.cmp Cmp.ne (Expr.col 0) (Expr.arith Arith.sub (Expr.lit (Val.int 0)) (Expr.lit (Val.int 1))))
    (Expr.cmp Cmp.ne (Expr.col 3) (Expr.lit (Val.str lamName)))

def lamE : Expr := Expr.cmp Cmp.eq (Expr.col 3) (Expr.lit (Val.str lamName))

def win1 : Rel := Rel.window [Expr.col 3] (Agg.sum (Expr.col 1)) (Rel.filter keepE (Rel.table "mu_in"))
def win2 : Rel := Rel.window [Expr.col 3] (Agg.sum (Expr.col 2)) win1

theorem proportions_def : Gen.EMSql.proportions =
    Rel.union true
      (Rel.project [Expr.col 0, Expr.col 3, Expr.arith Arith.div (Expr.col 1) (Expr.col 4),
        Expr.arith Arith.div (Expr.col 2) (Expr.col 5)] win2)
      (Rel.project [Expr.col 0, Expr.col 3, Expr.col 1, Expr.col 2] (Rel.filter lamE (Rel.table "mu_in"))) := rfl

theorem keepE_holds (c : CRow) : keepE.holds (encC c) = keep c := by
  have h1 : Arith.sub.eval (Val.int 0) (Val.int 1) = Val.int (-1) := rfl
  simp only [keepE, Expr.holds, Expr.eval, encC, List.getD_cons_zero, List.getD_cons_succ, h1, cmp_ne_int, cmp_ne_str,
    and3_bool, keep, bool_beq_true, decide_not]
  rfl

/-- The `where` of the first branch drops every row named `'_probability_two_random_records_match'`, whatever its
other columns hold. -/
theorem keepE_holds_lam (r : Row) (h : r.getD 3 .null = .str lamName) : keepE.holds r = false := by
  have h2 : Cmp.ne.eval (r.getD 3 .null) (Val.str lamName) = .bool false := by
    rw [h, cmp_ne_str, bne_self_eq_false]
  simp only [keepE, Expr.holds, Expr.eval, h2, and3_false_right]
  rfl

theorem lamE_holds (r : Row) : lamE.holds r = (r.getD 3 .null == .str lamName) := by
  show (Cmp.eq.eval (r.getD 3 .null) (Val.str lamName) == Val.bool true) = _
  cases r.getD 3 Val.null with
  | null => rfl
  | _ => exact bool_beq_true _

/-- The partition sums of the kept rows are the sums over the rows of that name with `v ≠ −1`. -/
theorem filter_keep_name (L : List CRow) (nm : String) (hnm : nm ≠ lamName) :
    ((L.filter keep).filter fun x => x.name == nm) = L.filter fun c => c.v != -1 && c.name == nm := by
  rw [List.filter_filter]
  apply List.filter_congr
  intro a _
  cases h : a.name == nm
  · rw [Bool.false_and, Bool.and_false]
  · rw [Bool.true_and, Bool.and_true, keep, beq_iff_eq.mp h, bne_iff_ne.mpr hnm, Bool.and_true]

/-- The rows the second branch selects from a counts table `L` followed by rows `B` named like the lambda row. -/
theorem filter_lam (L : List CRow) (B : List Row) (hB : ∀ r ∈ B, r.getD 3 .null = .str lamName) :
    ((L.map encC ++ B).filter fun r => r.getD 3 .null == .str lamName) =
      (L.filter fun c => c.name == lamName).map encC ++ B := by
  rw [List.filter_append, List.filter_eq_self.mpr fun r hr => beq_iff_eq.mpr (hB r hr),
    Lists.filter_map_congr encC _ (fun c => c.name == lamName) fun c => str_beq c.name lamName]

/-- **`compute_proportions_for_new_parameters_sql`** on a counts table `L` followed by arbitrary rows `B` named
`'_probability_two_random_records_match'` (possibly with NULL numbers: the lambda block on an empty table). -/
theorem proportions_eval (L : List CRow) (B : List Row) (hB : ∀ r ∈ B, r.getD 3 .null = .str lamName) :
    EMSql.proportions (L.map encC ++ B) =
      (L.filter keep).map (propRow L) ++
        ((L.filter fun c => c.name == lamName).map (fun c => [.int c.v, .str c.name, .rat c.m, .rat c.u]) ++
          B.map lamOut) := by
  unfold EMSql.proportions
  rw [proportions_def, eval_union_all]
  generalize hdb : Db.set (fun _ => []) "mu_in" (L.map encC ++ B) = db
  have hmu : db "mu_in" = L.map encC ++ B := by rw [← hdb, set_same]
  refine congrArg₂ (· ++ ·) ?_ ?_
  · have hBn : B.filter keepE.holds = [] :=
      List.filter_eq_nil_iff.mpr fun r hr => by rw [keepE_holds_lam r (hB r hr)]; exact Bool.false_ne_true
    have hT : (Rel.filter keepE (Rel.table "mu_in")).eval db = (L.filter keep).map encC := by
      rw [eval_filter, eval_table, hmu, List.filter_append, hBn, List.append_nil, Lists.filter_map_congr encC _ keep keepE_holds]
    have hW1 := window_sum_rat (part := [Expr.col 3]) (e := Expr.col 1) (vf := (·.m))
      (same := fun (x a : CRow) => x.name == a.name) hT (fun x a => singleton_str_beq x.name a.name)
      (fun _ => decide_eq_true rfl) (fun _ => rfl)
    have hW2 := window_sum_rat (part := [Expr.col 3]) (e := Expr.col 2) (vf := (·.u))
      (same := fun (x a : CRow) => x.name == a.name) hW1 (fun x a => singleton_str_beq x.name a.name)
      (fun _ => decide_eq_true rfl) (fun _ => rfl)
    rw [eval_project, show win2.eval db = _ from hW2, List.map_map]
    apply List.map_congr_left
    intro c hc
    have hnm : c.name ≠ lamName := bne_iff_ne.mp (Bool.and_eq_true_iff.mp (List.mem_filter.mp hc).2).2
    show [Val.int c.v, Val.str c.name, Arith.div.eval (Val.rat c.m) (Val.rat _),
      Arith.div.eval (Val.rat c.u) (Val.rat _)] = _
    rw [div_rat_rat, div_rat_rat, filter_keep_name L c.name hnm]
    rfl
  · rw [eval_project, eval_filter, eval_table, hmu, List.filter_congr fun r _ => lamE_holds r, filter_lam L B hB,
      List.map_append, List.map_map]
    rfl

/-! ## Part 3: `__splink__m_u_counts`, and its partitions when the names are pairwise distinct -/

theorem mUCounts_eval (useApc : Bool) (names : List String) (rows : List PRow) :
    mUCounts useApc names rows = (countsC useApc names rows).map encC ++ [lambdaRow useApc rows] := by
  show ((List.range names.length).flatMap fun ci => (countsBlock useApc (.str (names.getD ci ""))).eval _) ++
    (lambdaBlock useApc).eval _ = _
  simp only [fun ci => countsBlock_eval useApc (set_predictIn rows ci), lambdaBlock_eval useApc (set_predictIn rows 0),
    countsC, blockC, List.map_flatMap, List.map_map]
  rfl

/-- `sum(m_count) over (partition by output_column_name)` for comparison `ci` when its name is unique:
`Σ mSpecW` over the observed values other than `−1`. -/
def denomMW (useApc : Bool) (rows : List PRow) (ci : Nat) : Rat :=
  (((gammaValues rows ci).filter (· != -1)).map (mSpecW useApc rows ci)).sum

def denomUW (useApc : Bool) (rows : List PRow) (ci : Nat) : Rat :=
  (((gammaValues rows ci).filter (· != -1)).map (uSpecW useApc rows ci)).sum

/-- The new `m` / `u` of value `v` of comparison `ci` as SQL values (NULL when the denominator is 0). -/
def sqlNewM (useApc : Bool) (rows : List PRow) (ci : Nat) (v : Int) : Val :=
  divV (mSpecW useApc rows ci v) (denomMW useApc rows ci)

def sqlNewU (useApc : Bool) (rows : List PRow) (ci : Nat) (v : Int) : Val :=
  divV (uSpecW useApc rows ci v) (denomUW useApc rows ci)

/-- The lambda row of the result. -/
def lambdaOut (useApc : Bool) (rows : List PRow) : Row :=
  [.int 0, .str lamName, divV (totalP useApc rows) (totalW useApc rows),
    divV (totalQ useApc rows) (totalW useApc rows)]

/-- A `where` on value and name keeps of the block of comparison `ci` the values other than `−1`, or nothing,
according to the comparison's name. -/
theorem filter_blockC (useApc : Bool) (names : List String) (rows : List PRow) (ci : Nat) (p : String → Bool) :
    ((blockC useApc names rows ci).filter fun c => c.v != -1 && p c.name) =
      if p (names.getD ci "") then ((gammaValues rows ci).filter (· != -1)).map fun v =>
        ⟨v, mSpecW useApc rows ci v, uSpecW useApc rows ci v, names.getD ci ""⟩ else [] := by
  unfold blockC
  rw [List.filter_map]
  show ((gammaValues rows ci).filter fun v => v != -1 && p (names.getD ci "")).map _ = _
  cases p (names.getD ci "") <;> simp

/-- With pairwise distinct names the partition of comparison `ci` is its own block. -/
theorem filter_countsC (useApc : Bool) (names : List String) (rows : List PRow) (hnd : names.Nodup)
    (ci : Nat) (hci : ci < names.length) :
    ((countsC useApc names rows).filter fun c => c.v != -1 && c.name == names.getD ci "") =
      ((gammaValues rows ci).filter (· != -1)).map fun v =>
        ⟨v, mSpecW useApc rows ci v, uSpecW useApc rows ci v, names.getD ci ""⟩ := by
  unfold countsC
  rw [List.filter_flatMap, flatMap_eq_single _ ci _ List.nodup_range (List.mem_range.mpr hci)]
  · exact (filter_blockC useApc names rows ci (· == names.getD ci "")).trans (if_pos (beq_self_eq_true _))
  · intro cj hcj hne
    refine (filter_blockC useApc names rows cj (· == names.getD ci "")).trans (if_neg ?_)
    rw [beq_iff_eq, Lists.getD_lt names "" (List.mem_range.mp hcj), Lists.getD_lt names "" hci, hnd.getElem_inj_iff]
    exact hne

/-- … so the row of value `v` of comparison `ci` is normalised by `denomMW`, `denomUW`. -/
theorem propRow_countsC (useApc : Bool) (names : List String) (rows : List PRow) (hnd : names.Nodup)
    (ci : Nat) (hci : ci < names.length) (v : Int) :
    propRow (countsC useApc names rows) ⟨v, mSpecW useApc rows ci v, uSpecW useApc rows ci v, names.getD ci ""⟩ =
      [.int v, .str (names.getD ci ""), sqlNewM useApc rows ci v, sqlNewU useApc rows ci v] := by
  unfold propRow sqlNewM sqlNewU denM denU denomMW denomUW
  rw [filter_countsC useApc names rows hnd ci hci, List.map_map, List.map_map]
  rfl

/-! ## Sums over the rows -/

theorem filter_observed (rows : List PRow) (ci : Nat) :
    (rows.filter fun r => ((gammaValues rows ci).filter (· != -1)).contains (gam ci r)) =
      rows.filter fun r => gam ci r != -1 := by
  apply List.filter_congr
  intro r hr
  rw [Bool.eq_iff_iff, List.contains_iff_mem, List.mem_filter, mem_gammaValues]
  exact ⟨fun h => h.2, fun h => ⟨⟨r, hr, rfl⟩, h⟩⟩

/-- The group sums of any summand over the observed values other than `−1` add up to the sum over the rows whose gamma
is not `−1`; with `p·w` and `(1−p)·w` this is `denomMW` and `denomUW`. -/
theorem sum_observed_groups (rows : List PRow) (ci : Nat) (g : PRow → Rat) :
    (((gammaValues rows ci).filter (· != -1)).map fun v => ((rows.filter fun r => gam ci r == v).map g).sum).sum =
      ((rows.filter fun r => gam ci r != -1).map g).sum := by
  rw [Lemmas.EM.sum_groups rows (gam ci) g ((gammaValues rows ci).filter (· != -1)) ((Lists.nodup_eraseDups _).filter _),
    filter_observed]

theorem totalQ_eq (useApc : Bool) (rows : List PRow) :
    totalQ useApc rows = (totalW useApc rows : Rat) - totalP useApc rows := by
  unfold totalQ totalW totalP
  induction rows with
  | nil => simp
  | cons a t ih =>
    simp only [List.map_cons, List.sum_cons, ih, Nat.cast_add]
    ring

/-! ## Part 4: link to the functional model `Model/EM.lean` at `ℝ` -/

open SplinkVerif.Lemmas.Score in
/-- The SQL row `row` is the image of the model row `r` under the parameters `θ`: `match_probability` is the E-step
probability, the counts agree (and are 1 in the row-wise variant, which ignores them), and comparison `ci` assigns the
level whose value is the row's gamma. -/
def Linked (useApc : Bool) (θ : EM.Params ℝ) (ci : Nat) (row : PRow) (r : EM.Row ℝ) : Prop :=
  ((row.p : ℚ) : ℝ) = EM.eProb θ r ∧ row.count = r.count ∧ (useApc = false → row.count = 1) ∧
    EM.gammaAt θ r ci = some (gam ci row)

theorem Linked.gammaAt_eq {useApc : Bool} {θ : EM.Params ℝ} {ci : Nat} {row : PRow} {r : EM.Row ℝ}
    (h : Linked useApc θ ci row r) : EM.gammaAt θ r ci = some (gam ci row) :=
  h.2.2.2

theorem Linked.wt_eq {useApc : Bool} {θ : EM.Params ℝ} {ci : Nat} {row : PRow} {r : EM.Row ℝ}
    (h : Linked useApc θ ci row r) : wt useApc row = r.count := by
  obtain ⟨_, h2, h3, _⟩ := h
  cases useApc
  · simp [wt, ← h2, h3 rfl]
  · simp [wt, h2]

theorem linked_pred {useApc : Bool} {θ : EM.Params ℝ} {ci : Nat} (v : Int) (a : PRow) (b : EM.Row ℝ)
    (h : Linked useApc θ ci a b) : (gam ci a == v) = (EM.gammaAt θ b ci == some v) := by
  rw [h.gammaAt_eq]
  simp

theorem linked_m {useApc : Bool} {θ : EM.Params ℝ} {ci : Nat} (a : PRow) (b : EM.Row ℝ)
    (h : Linked useApc θ ci a b) :
    ((a.p * (wt useApc a : ℚ) : ℚ) : ℝ) = EM.eProb θ b * (b.count : ℝ) := by
  rw [Rat.cast_mul, h.1, Rat.cast_natCast, h.wt_eq]

theorem linked_u {useApc : Bool} {θ : EM.Params ℝ} {ci : Nat} (a : PRow) (b : EM.Row ℝ)
    (h : Linked useApc θ ci a b) :
    (((1 - a.p) * (wt useApc a : ℚ) : ℚ) : ℝ) = (1 - EM.eProb θ b) * (b.count : ℝ) := by
  rw [Rat.cast_mul, Rat.cast_sub, Rat.cast_one, h.1, Rat.cast_natCast, h.wt_eq]

theorem totalP_cast {useApc : Bool} {θ : EM.Params ℝ} {ci : Nat} {rows : List PRow} {rs : List (EM.Row ℝ)}
    (h : List.Forall₂ (Linked useApc θ ci) rows rs) :
    ((totalP useApc rows : ℚ) : ℝ) = (rs.map fun r => EM.eProb θ r * (r.count : ℝ)).sum := by
  have := cast_sum_filter h (fun _ => true) (fun _ => true) _ _ (fun _ _ _ => rfl) linked_m
  rwa [List.filter_true, List.filter_true] at this

theorem totalW_cast {useApc : Bool} {θ : EM.Params ℝ} {ci : Nat} {rows : List PRow} {rs : List (EM.Row ℝ)}
    (h : List.Forall₂ (Linked useApc θ ci) rows rs) :
    (((totalW useApc rows : ℕ) : ℚ) : ℝ) = (rs.map fun r => (r.count : ℝ)).sum := by
  unfold totalW
  induction h with
  | nil => simp
  | cons hab _ ih =>
    simp only [List.map_cons, List.sum_cons, Nat.cast_add, Rat.cast_add, Rat.cast_natCast] at ih ⊢
    rw [ih, hab.wt_eq]

/-- The SQL's new lambda is the model's `lambdaNew` (as numbers; the SQL value is NULL when the total weight is 0,
where the model's division returns `x / 0 = 0`). -/
theorem lambda_cast {useApc : Bool} {θ : EM.Params ℝ} {ci : Nat} {rows : List PRow} {rs : List (EM.Row ℝ)}
    (h : List.Forall₂ (Linked useApc θ ci) rows rs) :
    ((totalP useApc rows / (totalW useApc rows : ℚ) : ℚ) : ℝ) = EM.lambdaNew θ rs := by
  rw [Lemmas.EM.lambdaNew_eq, Rat.cast_div, totalP_cast h, totalW_cast h]

theorem filterMap_gamma {useApc : Bool} {θ : EM.Params ℝ} {ci : Nat} {rows : List PRow} {rs : List (EM.Row ℝ)}
    (h : List.Forall₂ (Linked useApc θ ci) rows rs) :
    (rs.filterMap fun r => EM.gammaAt θ r ci) = rows.map (gam ci) := by
  induction h with
  | nil => rfl
  | cons hab _ ih =>
    rw [List.filterMap_cons, hab.gammaAt_eq, List.map_cons, ih]

end SplinkVerif.Lemmas.EMSql
