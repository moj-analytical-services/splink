import SplinkVerif.Model.Txn
/-!
# Lemmas about `Model/Txn.lean` (failure atomicity of the public operations)

What `n` statements in a row do, and that a write put after an atomic program leaves it atomic.
-/
namespace SplinkVerif.Lemmas.TxnL
open SplinkVerif SplinkVerif.Txn

/-- An operation is atomic if, whenever it raises — wherever the fault is injected — the observable
state is what it was before the call. -/
def Atomic (p : Prog) : Prop := ∀ s k, (exec p s k).out = .raised → (exec p s k).obs = s

theorem exec_sqls_none (n : Nat) (s : Obs) : exec (sqls n) s none = ⟨s, .ok, none⟩ := by
  induction n with
  | zero => rfl
  | succ n ih =>
    -- without a fault `exec` steps over the first statement by computation
    exact ih

theorem exec_sqls_some (n : Nat) (s : Obs) (k : Nat) :
    exec (sqls n) s (some k) = if k < n then ⟨s, .raised, none⟩ else ⟨s, .ok, some (k - n)⟩ := by
  induction n generalizing k with
  | zero => rfl
  | succ n ih =>
    cases k with
    | zero => rfl
    | succ k =>
      simp only [Nat.add_sub_add_right, Nat.add_lt_add_iff_right]
      exact ih k

/-- the write is not reached if `p` raises -/
theorem atomic_seq_write {p : Prog} (hp : Atomic p) (f : Obs → Obs) : Atomic (.seq p (.write f)) := by
  intro s k
  have h := hp s k
  unfold exec
  dsimp only
  cases (exec p s k).out with
  | ok => nofun
  | raised => exact h

end SplinkVerif.Lemmas.TxnL
