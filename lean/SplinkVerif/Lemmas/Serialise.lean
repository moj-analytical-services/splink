import SplinkVerif.Model.Serialise
import SplinkVerif.Lemmas.Lists
/-!
# The round trip of `Model/Serialise.lean`, record by record (C09)

Levels, then lists of levels, comparisons, rules, settings: each `fromDict ∘ asDict` is the identity on
well-formed records.  For a level everything follows from `ofDict_asDict`: the constructor undoes
`as_dict`.  Core Lean only.
-/
namespace SplinkVerif.Serialise.Lemmas
open SplinkVerif.Serialise SplinkVerif.Lemmas.Lists

theorem orElse_some_truthy {s d : String} (h : truthy s = true) : orElse (some s) d = s := by
  simp only [orElse, h, if_true]

theorem truthy_className : truthy className = true := by decide

/-! ### Dictionary-side well-formedness (what a user may write) -/

/-- A level dictionary the constructors accept silently and completely: the label (or the SQL
text that replaces a missing one) is non-empty; TF weight / minimum-u only together with a TF
column (they are ignored otherwise), the TF column non-empty, a zero minimum-u written `0.0`. -/
def LevelDict.wf (d : LevelDict) : Bool :=
  truthy (match d.label_for_charts with | some s => s | none => d.sql_condition) &&
  (d.is_null_level != some true || (d.m_probability == none && d.u_probability == none)) &&
  (match d.tf_adjustment_column with
    | none => d.tf_adjustment_weight == none && d.tf_minimum_u_value == none
    | some c => truthy c &&
        (match d.tf_minimum_u_value with | some x => !x.isZero || x == .flt 0 | none => true))

theorem ite_some_true_getD (b : Bool) : (if b = true then some true else none : Option Bool).getD false = b := by
  cases b <;> rfl

theorem ofOpt_emit {p : Prob} (h : (p != .notObserved) = true) : Prob.ofOpt p.emit = p := by
  cases p <;> first | rfl | cases h

/-- The constructor undoes `as_dict`, field by field: every key `as_dict` omits is omitted exactly
when the attribute has the constructor's default.  The printed comparison vector value is never
looked at, because a well-formed level has a label of its own. -/
theorem ofDict_asDict (cvv : String) (l : Level) (h : l.wf = true) :
    Level.ofDict (Level.asDict cvv l) = l := by
  obtain ⟨sql, label, isNull, tfCol, tfWeight, tfMinU, disableTf, m, u, fixM, fixU⟩ := l
  simp only [Level.wf, Bool.and_eq_true] at h
  obtain ⟨⟨⟨⟨hlab, -⟩, hm⟩, hu⟩, htf⟩ := h
  simp only [Level.ofDict, Level.asDict, Level.labelForCharts, Level.mk.injEq, true_and,
    Option.getD_some, ofOpt_emit hm, ofOpt_emit hu, ite_some_true_getD]
  refine ⟨?_, ?_⟩
  · cases label with
    | none => cases hlab
    | some lab => simp only [orElse_some_truthy hlab, hlab, if_true]
  · cases tfCol with
    | none =>
      -- neither TF number is written; `wf` says they are the defaults the constructor puts back
      simp only [Bool.and_eq_true, beq_iff_eq] at htf
      simp only [htf, Option.getD_none, and_self]
    | some c =>
      -- the weight is written; the minimum u is left out only if zero, and then `wf` says it is the default `0.0`
      cases hz : tfMinU.isZero with
      | false => simp
      | true =>
        simp only [hz, Bool.not_true, Bool.false_or, Bool.and_eq_true, beq_iff_eq] at htf
        simp [htf.2]

/-- The creator only supplies a label where there is none. -/
theorem creatorLevelDict_of_label {d : LevelDict} {s : String} (h : d.label_for_charts = some s) :
    creatorLevelDict d = d := by
  obtain ⟨_, label, _, _, _, _, _, _, _, _, _⟩ := d
  cases h
  rfl

theorem label_of_wf {l : Level} (h : l.wf = true) : ∃ s, l.label = some s := by
  cases hl : l.label with
  | none => simp [Level.wf, hl] at h
  | some s => exact ⟨s, rfl⟩

theorem level_roundtrip (cvv : String) (l : Level) (h : l.wf = true) :
    Level.fromDict (Level.asDict cvv l) = l := by
  obtain ⟨s, hs⟩ := label_of_wf h
  have hlab : (Level.asDict cvv l).label_for_charts = some s :=
    (congrArg Level.label (ofDict_asDict cvv l h)).trans hs
  rw [Level.fromDict, creatorLevelDict_of_label hlab, ofDict_asDict cvv l h, ofDict_asDict "" l h]

theorem level_ofDict_wf (d : LevelDict) (h : LevelDict.wf d = true) :
    (Level.ofDict (creatorLevelDict d)).wf = true := by
  obtain ⟨sql, label, m, u, fixM, fixU, tfCol, tfMinU, tfWeight, isNull, disableTf⟩ := d
  simp only [LevelDict.wf, Bool.and_eq_true] at h
  obtain ⟨⟨hlab, hnull⟩, htf⟩ := h
  simp only [Level.wf, Level.ofDict, creatorLevelDict, Bool.and_eq_true]
  -- after the label: a null level has no m / u; `Prob.ofOpt` never gives the placeholder (m, then u); the TF fields
  refine ⟨⟨⟨⟨hlab, ?_⟩, ?_⟩, ?_⟩, ?_⟩
  · cases isNull with
    | none => simp
    | some b =>
      cases b with
      | false => simp
      | true =>
        simp only [bne_self_eq_false, Bool.false_or, Bool.and_eq_true, beq_iff_eq] at hnull
        obtain ⟨h1, h2⟩ := hnull
        subst h1
        subst h2
        simp [Prob.ofOpt]
  · cases m <;> rfl
  · cases u <;> rfl
  · cases tfCol with
    | none =>
      simp only [Bool.and_eq_true, beq_iff_eq] at htf
      obtain ⟨hw, hmu⟩ := htf
      subst hw
      subst hmu
      simp
    | some c =>
      simp only [Bool.and_eq_true] at htf
      obtain ⟨hc, hz⟩ := htf
      cases tfMinU with
      | none => simp [hc, Num.isZero]
      | some x => simpa [hc] using hz

theorem cvvStrs_length (ls : List Level) (k : Int) : (cvvStrs ls k).length = ls.length := by
  induction ls generalizing k with
  | nil => rfl
  | cons l ls ih =>
    unfold cvvStrs
    split <;> simp [ih]

theorem levels_roundtrip (ls : List Level) (h : ls.all Level.wf = true) :
    ((zipWithCvv ls).map (fun p => Level.asDict p.1 p.2)).map Level.fromDict = ls := by
  have hfix : ∀ p ∈ zipWithCvv ls, (Level.fromDict ∘ fun p => Level.asDict p.1 p.2) p = p.2 :=
    fun p hp => level_roundtrip p.1 p.2 (List.all_eq_true.mp h p.2 (List.of_mem_zip hp).2)
  rw [List.map_map, List.map_congr_left hfix]
  exact List.map_snd_zip (Nat.le_of_eq (cvvStrs_length ls _).symm)

theorem comparison_roundtrip (v : Version) (dn : List Level → String) (c : Comparison)
    (h : c.wf v = true) : Comparison.fromDict v dn (Comparison.asDict c) = c := by
  obtain ⟨name, desc, levels⟩ := c
  simp only [Comparison.wf, Bool.and_eq_true, Bool.or_eq_true, beq_iff_eq] at h
  obtain ⟨⟨⟨hn, hd⟩, hv⟩, hl⟩ := h
  have hlv := levels_roundtrip levels hl
  simp only [Comparison.fromDict, Comparison.asDict, hlv, orElse_some_truthy hn]
  cases v with
  | current =>
    -- the method answers with the class name, which `wf` says is the description
    have : desc = className := by
      cases hv with
      | inl h => cases h
      | inr h => exact h
    subst this
    simp [createDescription, orElse_some_truthy truthy_className]
  | patched =>
    simp [createDescription, orElse_some_truthy hd]

theorem comparisons_roundtrip (v : Version) (dn : List Level → String) (cs : List Comparison)
    (h : cs.all (Comparison.wf v) = true) :
    (cs.map Comparison.asDict).map (Comparison.fromDict v dn) = cs := by
  rw [List.map_map]
  exact map_eq_self_of_all (comparison_roundtrip v dn) h

theorem rule_reload (b b' : String) (r : Rule) (h : Rule.wf b r = true) :
    Rule.fromDict b' (Rule.asDict r) = r.withDialect b' := by
  cases r with
  | plain s d => simp [Rule.fromDict, Rule.asDict, Rule.withDialect]
  | salted s d n =>
    simp only [Rule.wf, Bool.and_eq_true, decide_eq_true_eq] at h
    obtain ⟨_, hn⟩ := h
    -- `as_dict` writes `n`, and `n ≥ 2` is truthy
    cases n with
    | zero => cases hn
    | succ k => simp [Rule.fromDict, Rule.asDict, Rule.withDialect]
  | exploding s d cs =>
    simp only [Rule.wf, Bool.and_eq_true] at h
    obtain ⟨_, hc⟩ := h
    cases cs with
    | nil => cases hc
    | cons c cs => simp [Rule.fromDict, Rule.asDict, Rule.withDialect]

theorem rule_withDialect_self (b : String) (r : Rule) (h : Rule.wf b r = true) :
    r.withDialect b = r := by
  -- `wf` says the stamp is `b` already
  cases r <;> simp_all [Rule.wf, Rule.withDialect]

theorem rule_withDialect_wf (b b' : String) (r : Rule) (h : Rule.wf b r = true) :
    Rule.wf b' (r.withDialect b') = true := by
  -- the stamp is `b'`, and what else `wf` asks does not read the stamp
  cases r <;> simp_all [Rule.wf, Rule.withDialect]

theorem rules_reload (b b' : String) (rs : List Rule) (h : rs.all (Rule.wf b) = true) :
    (rs.map Rule.asDict).map (Rule.fromDict b') = rs.map (Rule.withDialect b') := by
  rw [List.map_map]
  exact List.map_congr_left fun r hr => rule_reload b b' r (List.all_eq_true.mp h r hr)

theorem settings_withDialect_self (v : Version) (b : String) (s : Settings) (h : s.wf v b = true) :
    s.withDialect b = s := by
  obtain ⟨linkType, prior, rm, ri, add, dialect, luid, emc, mi, bf, tf, gam, uidc, sds, rules, comps⟩ := s
  simp only [Settings.wf, Bool.and_eq_true, beq_iff_eq] at h
  obtain ⟨⟨⟨hd, _⟩, hr⟩, _⟩ := h
  simp only [Settings.withDialect]
  rw [map_eq_self_of_all (rule_withDialect_self b) hr, hd]

theorem settings_withDialect_wf (v : Version) (b b' : String) (s : Settings) (h : s.wf v b = true) :
    (s.withDialect b').wf v b' = true := by
  simp only [Settings.wf, Bool.and_eq_true] at h ⊢
  obtain ⟨⟨⟨_, hu⟩, hr⟩, hc⟩ := h
  -- `withDialect` leaves the uid and the comparisons as they are
  refine ⟨⟨⟨beq_self_eq_true b', hu⟩, ?_⟩, hc⟩
  simp only [Settings.withDialect, List.all_map]
  apply List.all_eq_true.mpr
  intro r hr'
  exact rule_withDialect_wf b b' r ((List.all_eq_true.mp hr) r hr')

end SplinkVerif.Serialise.Lemmas
