import Mathlib.Analysis.SpecialFunctions.Pow.Real
import Mathlib.Analysis.SpecialFunctions.Log.Base
import Mathlib.Tactic.Ring
import Mathlib.Tactic.Linarith
import SplinkVerif.Model.Estimators
import SplinkVerif.Lemmas.Lists
import SplinkVerif.Lemmas.ArithNum
/-!
# Lemmas for C04 (direct estimators)

* counting lemmas about `levelFreq` (core Lean lists);
* the number interface of the *generated* arithmetic at `ℝ` (`sqrt = Real.sqrt`) and the sampling
  arithmetic of `estimate_u_values` (`sampleDedupe`, `sampleLinkOnly`): `rowsNeeded` is the increasing
  inverse of the pair count `x ↦ x (x − 1) / 2`;
* the recall guard/formula of `priorEstimate`.
-/
namespace SplinkVerif.Lemmas.Est
open SplinkVerif SplinkVerif.Estimators

def nonNull (g : Option Int) : Bool := match g with | some w => w != -1 | none => false

theorem nonNullCount_eq (gammas : List (Option Int)) :
    nonNullCount gammas = (gammas.filter nonNull).length := rfl

theorem levelCount_eq (gammas : List (Option Int)) (v : Int) (hv : v ≠ -1) :
    levelCount gammas v = ((gammas.filter nonNull).filter fun g => g.getD (-1) == v).length := by
  unfold levelCount
  rw [List.filter_filter]
  refine congrArg List.length (List.filter_congr fun g _ => ?_)
  cases g with
  | none => simp [nonNull]
  | some w =>
    by_cases h : w = v
    · subst h
      simpa [nonNull] using hv
    · simp [h]

theorem levelCount_le_nonNullCount (gammas : List (Option Int)) (v : Int) (hv : v ≠ -1) :
    levelCount gammas v ≤ nonNullCount gammas := by
  rw [levelCount_eq gammas v hv]
  exact List.length_filter_le _ _

theorem levelCount_eq_zero_iff (gammas : List (Option Int)) (v : Int) :
    levelCount gammas v = 0 ↔ ∀ g ∈ gammas, g ≠ some v := by
  unfold levelCount
  rw [List.length_eq_zero_iff, List.filter_eq_nil_iff]
  exact forall₂_congr fun g _ => by rw [beq_iff_eq]

theorem levelFreq_eq (gammas : List (Option Int)) (v : Int) :
    levelFreq gammas v =
      if v = -1 then none else if levelCount gammas v = 0 then none
      else some (levelCount gammas v, nonNullCount gammas) := by
  simp only [levelFreq, beq_iff_eq]

/-- Double counting: every non-null row falls in exactly one of the listed levels. -/
theorem sum_levelCount (gammas : List (Option Int)) (levels : List Int)
    (hnd : levels.Nodup) (hneg : ∀ v ∈ levels, v ≠ -1)
    (hcover : ∀ g ∈ gammas, ∀ w, g = some w → w ≠ -1 → w ∈ levels) :
    (levels.map fun v => levelCount gammas v).sum = nonNullCount gammas := by
  rw [List.map_congr_left fun v hv => levelCount_eq gammas v (hneg v hv)]
  refine Lists.length_by_key _ _ levels hnd fun g hg => ?_
  obtain ⟨hg, hnn⟩ := List.mem_filter.mp hg
  cases g with
  | none => cases hnn
  | some w => exact hcover _ hg w rfl (by simpa [nonNull] using hnn)

/-- The number interface at `ℝ` (`inf` is junk: it is not used by the sampling arithmetic). -/
noncomputable instance instANumReal : SplinkVerif.ANum ℝ where
  ofNat n := (n : ℝ)
  add a b := a + b
  sub a b := a - b
  mul a b := a * b
  div a b := a / b
  sqrt := Real.sqrt
  pow2 x := (2 : ℝ) ^ x
  log2 := Real.logb 2
  inf := 0
  le a b := decide (a ≤ b)
  lt a b := decide (a < b)
  eq a b := decide (a = b)

theorem anum_ofNat (n : ℕ) : (ANum.ofNat n : ℝ) = (n : ℝ) := rfl
theorem anum_add (a b : ℝ) : ANum.add a b = a + b := rfl
theorem anum_sub (a b : ℝ) : ANum.sub a b = a - b := rfl
theorem anum_mul (a b : ℝ) : ANum.mul a b = a * b := rfl
theorem anum_div (a b : ℝ) : ANum.div a b = a / b := rfl
theorem anum_sqrt (a : ℝ) : ANum.sqrt a = Real.sqrt a := rfl
theorem anum_le (a b : ℝ) : ANum.le a b = decide (a ≤ b) := rfl
theorem anum_lt (a b : ℝ) : ANum.lt a b = decide (a < b) := rfl
theorem anum_eq (a b : ℝ) : ANum.eq a b = decide (a = b) := rfl

theorem ANum_sum_eq (xs : List ℝ) : ANum.sum xs = xs.sum :=
  ANum.sum_eq (fun _ _ => rfl) Nat.cast_zero xs

/-- `_rows_needed_for_n_pairs` at `ℝ`: the positive root of `x (x − 1) / 2 = p`, whose discriminant is `8 p + 1`. -/
noncomputable def rowsNeeded (p : ℝ) : ℝ := 1 / 2 * (Real.sqrt (8 * p + 1) + 1)

theorem rowsNeeded_pos (p : ℝ) : 0 < rowsNeeded p := by
  unfold rowsNeeded
  positivity

/-- `x` rows make `x (x − 1) / 2` pairs, and `rowsNeeded` recovers `x` from that number. -/
theorem rowsNeeded_pairs (x : ℝ) (hx : 1 ≤ x) : rowsNeeded (x * (x - 1) / 2) = x := by
  have h : 8 * (x * (x - 1) / 2) + 1 = (2 * x - 1) * (2 * x - 1) := by ring
  rw [rowsNeeded, h, Real.sqrt_mul_self (by linarith)]
  ring

theorem rowsNeeded_mono {p q : ℝ} (h : p ≤ q) : rowsNeeded p ≤ rowsNeeded q := by
  have hs : Real.sqrt (8 * p + 1) ≤ Real.sqrt (8 * q + 1) :=
    Real.sqrt_le_sqrt (add_le_add_left (mul_le_mul_of_nonneg_left h (by norm_num)) 1)
  exact mul_le_mul_of_nonneg_left (add_le_add_left hs 1) one_half_pos.le

theorem rowsNeeded_strictMono {p q : ℝ} (h0 : 0 ≤ p) (h : p < q) : rowsNeeded p < rowsNeeded q := by
  have h8 : (0 : ℝ) < 8 := by norm_num
  -- `Real.sqrt` is `0` on all negatives, so it is strictly increasing only from a radicand `≥ 0`: hence `h0`
  have hs : Real.sqrt (8 * p + 1) < Real.sqrt (8 * q + 1) :=
    Real.sqrt_lt_sqrt (add_nonneg (mul_nonneg h8.le h0) zero_le_one)
      (add_lt_add_left (mul_lt_mul_of_pos_left h h8) 1)
  exact mul_lt_mul_of_pos_left (add_lt_add_left hs 1) one_half_pos

/-- The clamp `if t < s then t else s` of a sample size `s` to the table size `t`. -/
theorem clamp_of_le {t s : ℝ} (h : t ≤ s) : (if t < s then t else s) = t := by
  split
  · rfl
  · exact le_antisymm (not_lt.mp ‹_›) h

theorem sampleDedupe_eq (p t : ℝ) :
    sampleDedupe p t =
      some (if 1 ≤ rowsNeeded p / t then 1 else rowsNeeded p / t,
            if t < rowsNeeded p then t else rowsNeeded p) := by
  simp only [sampleDedupe, Gen._rows_needed_for_n_pairs, rowsNeeded, anum_ofNat, anum_add, anum_mul,
    anum_div, anum_sqrt, anum_le, anum_lt, Nat.cast_one, Nat.cast_ofNat, decide_eq_true_eq]
  rfl

/-- `_proportion_sample_size_link_only` at `ℝ`: its `total_links` is `((Σ c)² − Σ c²) / 2`, the pairs between
different tables of sizes `xs`. -/
theorem sampleLinkOnly_eq (xs : List ℝ) (p : ℝ) :
    sampleLinkOnly xs p =
      let q := Real.sqrt (p / ((xs.sum * xs.sum - (xs.map fun c => c * c).sum) / 2))
      some (if 1 ≤ q then 1 else q, if xs.sum < q * xs.sum then xs.sum else q * xs.sum) := by
  simp only [sampleLinkOnly, Gen._proportion_sample_size_link_only, ANum_sum_eq, anum_ofNat,
    anum_sub, anum_mul, anum_div, anum_sqrt, anum_le, anum_lt, Nat.cast_one, Nat.cast_ofNat,
    decide_eq_true_eq]

theorem priorEstimate_eq (observed cartesian recall : ℝ) :
    priorEstimate observed cartesian recall =
      if cartesian * recall < observed then none else some (observed / recall / cartesian) := by
  simp only [priorEstimate, anum_mul, anum_div, anum_lt, decide_eq_true_eq]

end SplinkVerif.Lemmas.Est
