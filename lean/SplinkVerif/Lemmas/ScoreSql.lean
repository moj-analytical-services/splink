import SplinkVerif.Model.ScoreSql
/-!
# Semantics of the scoring SQL (`Model/ScoreSql.lean`) under `Rel.eval`

What each statement computes is first written down as a function of the pair row (`gammaOf`, `bfLookup`, `cvRow`, `partsRow`,
`predictRow`, `keeps`, `probVal` …); then, for every list of comparisons, every list of levels, every condition and every database,
each expression evaluates to its function (`gammaCase_eval`, `bfCase_eval`, `probExpr_eval` …), each statement maps the pairs through
its row function (`cv_eval`, `parts_eval`, `predict_eval`), and so does the pipeline (`pipeline_predict`, `pipeline_parts`).  The last
section computes `probVal` for finite factors and for an infinite one.

Core Lean only, like the model it is about and `Properties/C02Sql.lean` above it: `getD_length_add` and `set_same`, which
`Lemmas/Rel.lean` (with its Mathlib list modules) also has, are stated here again.
-/
namespace SplinkVerif.Lemmas.ScoreSql
open SplinkVerif SplinkVerif.Rel SplinkVerif.ScoreSql

/-! ## A column of a concatenated row, a table just bound -/

theorem getD_length_add (pre xs : Row) (i : Nat) :
    (pre ++ xs).getD (pre.length + i) Val.null = xs.getD i Val.null := by
  rw [List.getD_eq_getElem?_getD, List.getD_eq_getElem?_getD,
    List.getElem?_append_right (Nat.le_add_right _ _), Nat.add_sub_cancel_left]

theorem set_same (db : Db) (name : String) (rows : List Row) : Db.set db name rows name = rows := by
  rw [Db.set, beq_self_eq_true, if_pos rfl]

/-! ## Specification-level functions of a pair row -/

/-- the level assigned to the pair: the first `WHEN` level whose condition is TRUE (`none`: the `ELSE` level) -/
def assigned (c : Comparison) (row : Row) : Option Level := c.levels.find? (fun l => l.cond.holds row)

/-- comparison-vector value of the assigned level -/
def gammaOf (c : Comparison) (row : Row) : Int :=
  match assigned c row with
  | some l => l.cvv
  | none => c.elseCvv

/-- Bayes-factor literal of the assigned level -/
def bfAssigned (c : Comparison) (row : Row) : Val :=
  match assigned c row with
  | some l => l.bf
  | none => c.elseBf

/-- `CASE WHEN gamma = v₁ THEN b₁ … END`: first level with that comparison-vector value -/
def bfLookup (c : Comparison) (v : Int) : Val :=
  match c.pairs.find? (fun p => p.1 == v) with
  | some p => p.2
  | none => Val.null

/-- the id columns of a row -/
def ids (nid : Nat) (row : Row) : Row := (List.range nid).map fun i => row.getD i Val.null

/-- `cast(prior as float8) * bf_1 * …` on values -/
def productVal (prior : Val) (bfs : List Val) : Val := bfs.foldl (fun acc b => Arith.mul.eval acc b) prior

/-- `bf_1 = 'infinity' OR …` on values -/
def anyInfVal (inf : Val) : List Val → Val
  | [] => Val.bool false
  | b :: bs => bs.foldl (fun acc x => or3 acc (Cmp.eq.eval x inf)) (Cmp.eq.eval b inf)

/-- the `match_probability` CASE on values -/
def probVal (inf prior : Val) (bfs : List Val) : Val :=
  if anyInfVal inf bfs == Val.bool true then Val.rat ((1 : Rat) / 1)
  else Arith.div.eval (productVal prior bfs) (Arith.add.eval (Val.int 1) (productVal prior bfs))

/-- `match_weight`: the uninterpreted `log2` of the product -/
def weightVal (prior : Val) (bfs : List Val) : Val := Val.log2 (productVal prior bfs)

/-- the `bf_<c>` values of a pair -/
def bfVals (cs : List Comparison) (r : Row) : List Val := cs.map fun c => bfLookup c (gammaOf c r)

def cvRow (nid : Nat) (cs : List Comparison) (r : Row) : Row := ids nid r ++ cs.map fun c => Val.int (gammaOf c r)

def partsRow (nid : Nat) (cs : List Comparison) (r : Row) : Row :=
  ids nid r ++ cs.flatMap fun c => [Val.int (gammaOf c r), bfLookup c (gammaOf c r)]

def predictRow (nid : Nat) (inf prior : Val) (cs : List Comparison) (r : Row) : Row :=
  [weightVal prior (bfVals cs r), probVal inf prior (bfVals cs r)] ++ ids nid r ++ bfVals cs r

/-- `where log2(P) >= t` -/
def keeps (prior : Val) (thr : Option Val) (cs : List Comparison) (r : Row) : Bool :=
  match thr with
  | none => true
  | some t => Cmp.ge.eval (weightVal prior (bfVals cs r)) t == Val.bool true

/-! ## The assigned level -/

theorem gammaOf_cons (l : Level) (ls : List Level) (e : Int) (eb : Val) (row : Row) :
    gammaOf ⟨l :: ls, e, eb⟩ row = if l.cond.holds row then l.cvv else gammaOf ⟨ls, e, eb⟩ row := by
  unfold gammaOf assigned
  rw [List.find?_cons]
  cases l.cond.holds row <;> rfl

theorem assigned_mem (c : Comparison) (row : Row) : (gammaOf c row, bfAssigned c row) ∈ c.pairs := by
  unfold gammaOf bfAssigned Comparison.pairs
  cases h : assigned c row with
  | none => simp
  | some l =>
    have hm : l ∈ c.levels := List.mem_of_find?_eq_some h
    simp only [List.mem_append, List.mem_map, List.mem_singleton]
    exact Or.inl ⟨l, hm, rfl⟩

/-- levels with the same comparison-vector value carry the same Bayes factor (Splink numbers the non-null levels distinctly; all null
levels get −1 and the factor 1) -/
def Consistent (c : Comparison) : Prop := ∀ p ∈ c.pairs, ∀ q ∈ c.pairs, p.1 = q.1 → p.2 = q.2

/-- The first level that carries the assigned level's value need not be the assigned one; `Consistent` makes their factors equal. -/
theorem bfLookup_gammaOf (c : Comparison) (hc : Consistent c) (row : Row) : bfLookup c (gammaOf c row) = bfAssigned c row := by
  have hm := assigned_mem c row
  unfold bfLookup
  cases hf : c.pairs.find? (fun p => p.1 == gammaOf c row) with
  | none =>
    have := List.find?_eq_none.mp hf _ hm
    simp at this
  | some p =>
    have hp : p ∈ c.pairs := List.mem_of_find?_eq_some hf
    have hpv : (p.1 == gammaOf c row) = true := List.find?_some (p := fun (p : Int × Val) => p.1 == gammaOf c row) hf
    have : p.1 = gammaOf c row := by simpa using hpv
    exact hc p hp _ hm this

/-! ## Expressions -/

theorem intLit_eval (v : Int) (row : Row) : (intLit v).eval row = Val.int v := by
  unfold intLit
  split
  · simp only [Expr.eval, Arith.eval]
    congr 1; omega
  · simp only [Expr.eval]

theorem gammaCase_eval (c : Comparison) (row : Row) : (gammaCase c).eval row = Val.int (gammaOf c row) := by
  obtain ⟨ls, e, eb⟩ := c
  induction ls with
  | nil => exact intLit_eval e row
  | cons l ls ih =>
    rw [gammaOf_cons]
    show (if l.cond.holds row then (intLit l.cvv).eval row else (gammaCase ⟨ls, e, eb⟩).eval row) = _
    rw [ih, intLit_eval]
    cases l.cond.holds row <;> rfl

theorem foldr_bf_eval (g : Nat) (ps : List (Int × Val)) (row : Row) (v : Int) (h : row.getD g Val.null = Val.int v) :
    (ps.foldr (fun p acc => Expr.case (Expr.cmp Cmp.eq (Expr.col g) (intLit p.1)) (Expr.lit p.2) acc) (Expr.lit Val.null)).eval row
      = (match ps.find? (fun p => p.1 == v) with | some p => p.2 | none => Val.null) := by
  induction ps with
  | nil => simp [Expr.eval]
  | cons p ps ih =>
    simp only [List.foldr_cons, Expr.eval, List.find?_cons, h, intLit_eval, Cmp.eval]
    by_cases hv : p.1 = v
    · simp [hv]
    · have hv' : ¬ v = p.1 := fun e => hv e.symm
      have hb : (p.1 == v) = false := by simpa using hv
      simp [hv', ih, hb]

theorem bfCase_eval (g : Nat) (c : Comparison) (row : Row) (v : Int) (h : row.getD g Val.null = Val.int v) :
    (bfCase g c).eval row = bfLookup c v := by
  unfold bfCase bfLookup
  exact foldr_bf_eval g c.pairs row v h

/-- `eval` goes through a left fold of a binary construct: `a * b₁ * b₂ …`, `a OR b₁ OR b₂ …`. -/
theorem foldl_eval {f : Expr → Expr → Expr} {g : Val → Val → Val} (row : Row)
    (h : ∀ a b, (f a b).eval row = g (a.eval row) (b.eval row)) : ∀ (bs : List Expr) (a : Expr),
    (bs.foldl f a).eval row = (bs.map fun e => e.eval row).foldl g (a.eval row)
  | [], _ => rfl
  | b :: bs, a => by
    rw [List.foldl_cons, foldl_eval row h bs, h, List.map_cons, List.foldl_cons]

theorem productExpr_eval (prior : Val) (bs : List Expr) (row : Row) :
    (productExpr prior bs).eval row = productVal prior (bs.map fun e => e.eval row) :=
  foldl_eval row (fun _ _ => by simp only [Expr.eval]) bs _

theorem anyInf_eval (inf : Val) (bs : List Expr) (row : Row) :
    (anyInf inf bs).eval row = anyInfVal inf (bs.map fun e => e.eval row) := by
  cases bs with
  | nil => simp only [anyInf, anyInfVal, Expr.eval, List.map_nil]
  | cons b bs =>
    rw [anyInf, List.map_cons, anyInfVal,
      foldl_eval (g := fun acc x => or3 acc (Cmp.eq.eval x inf)) row (fun _ _ => by simp only [Expr.eval])]
    simp only [Expr.eval]

theorem probExpr_eval (inf prior : Val) (bs : List Expr) (row : Row) :
    (probExpr inf prior bs).eval row = probVal inf prior (bs.map fun e => e.eval row) := by
  simp only [probExpr, probVal, Expr.eval, anyInf_eval, productExpr_eval]

theorem weightExpr_eval (prior : Val) (bs : List Expr) (row : Row) :
    (weightExpr prior bs).eval row = weightVal prior (bs.map fun e => e.eval row) := by
  simp only [weightExpr, weightVal, Expr.eval, productExpr_eval]

/-! ## Rows -/

theorem idCols_eval (nid : Nat) (row : Row) : (idCols nid).map (fun e => e.eval row) = ids nid row := by
  simp [idCols, ids, List.map_map, Function.comp_def, Expr.eval]

theorem ids_length (nid : Nat) (row : Row) : (ids nid row).length = nid := by simp [ids]

theorem ids_append (nid : Nat) (r x : Row) : ids nid (ids nid r ++ x) = ids nid r := by
  unfold ids
  apply List.map_congr_left
  intro i hi
  have hi' : i < nid := List.mem_range.mp hi
  rw [List.getD_eq_getElem?_getD, List.getD_eq_getElem?_getD, List.getElem?_append_left (by simp [hi'])]
  simp [hi']

theorem idCols_eval_ids (nid : Nat) (r x : Row) : (idCols nid).map (fun e => e.eval (ids nid r ++ x)) = ids nid r :=
  (idCols_eval nid _).trans (ids_append nid r x)

theorem cv_project (nid : Nat) (cs : List Comparison) (r : Row) :
    (idCols nid ++ cs.map gammaCase).map (fun e => e.eval r) = cvRow nid cs r := by
  simp [cvRow, idCols_eval, List.map_map, Function.comp_def, gammaCase_eval]

theorem partsCols_eval (r : Row) : ∀ (cs : List Comparison) (pre : Row),
    (partsCols pre.length cs).map (fun e => e.eval (pre ++ cs.map fun c => Val.int (gammaOf c r)))
      = cs.flatMap fun c => [Val.int (gammaOf c r), bfLookup c (gammaOf c r)]
  | [], _ => by simp [partsCols]
  | c :: cs, pre => by
    have h0 : (pre ++ Val.int (gammaOf c r) :: cs.map fun c => Val.int (gammaOf c r)).getD pre.length Val.null
        = Val.int (gammaOf c r) := getD_length_add pre _ 0
    have ih := partsCols_eval r cs (pre ++ [Val.int (gammaOf c r)])
    simp only [List.length_append, List.length_singleton, List.append_assoc, List.singleton_append] at ih
    simp only [partsCols, List.map_cons, List.flatMap_cons, Expr.eval, h0, bfCase_eval _ c _ _ h0, ih]
    simp

theorem parts_project (nid : Nat) (cs : List Comparison) (r : Row) :
    (idCols nid ++ partsCols nid cs).map (fun e => e.eval (cvRow nid cs r)) = partsRow nid cs r := by
  have h := partsCols_eval r cs (ids nid r)
  rw [ids_length] at h
  rw [List.map_append, cvRow, idCols_eval_ids, h, partsRow]

theorem bfCols_eval (r : Row) : ∀ (cs : List Comparison) (pre : Row),
    (bfCols pre.length cs).map (fun e => e.eval (pre ++ cs.flatMap fun c => [Val.int (gammaOf c r), bfLookup c (gammaOf c r)]))
      = bfVals cs r
  | [], _ => by simp [bfCols, bfVals]
  | c :: cs, pre => by
    have h1 : (pre ++ Val.int (gammaOf c r) :: bfLookup c (gammaOf c r) ::
        cs.flatMap fun c => [Val.int (gammaOf c r), bfLookup c (gammaOf c r)]).getD (pre.length + 1) Val.null
        = bfLookup c (gammaOf c r) := getD_length_add pre _ 1
    have ih := bfCols_eval r cs (pre ++ [Val.int (gammaOf c r), bfLookup c (gammaOf c r)])
    simp only [List.length_append, List.length_cons, List.length_nil, List.append_assoc, List.cons_append, List.nil_append] at ih
    simp only [bfCols, bfVals, List.map_cons, List.flatMap_cons, Expr.eval, List.cons_append, List.nil_append, h1]
    simp only [bfVals] at ih
    rw [← ih]

theorem bfCols_parts (nid : Nat) (cs : List Comparison) (r : Row) :
    (bfCols nid cs).map (fun e => e.eval (partsRow nid cs r)) = bfVals cs r := by
  have h := bfCols_eval r cs (ids nid r)
  rwa [ids_length] at h

theorem predict_project (nid : Nat) (inf prior : Val) (cs : List Comparison) (r : Row) :
    ([weightExpr prior (bfCols nid cs), probExpr inf prior (bfCols nid cs)] ++ idCols nid ++ bfCols nid cs).map
        (fun e => e.eval (partsRow nid cs r)) = predictRow nid inf prior cs r := by
  simp only [List.map_append, List.map_cons, List.map_nil, weightExpr_eval, probExpr_eval, bfCols_parts, predictRow]
  rw [partsRow, idCols_eval_ids]

/-! ## Statements -/

theorem cv_eval (nid : Nat) (cs : List Comparison) (db : Db) :
    (cvStmt nid cs).eval db = (db "blocked_with_cols").map (cvRow nid cs) := by
  simp only [cvStmt, Rel.eval]
  exact List.map_congr_left fun r _ => cv_project nid cs r

theorem parts_eval (nid : Nat) (cs : List Comparison) (db : Db) (pairs : List Row)
    (h : db "__splink__df_comparison_vectors" = pairs.map (cvRow nid cs)) :
    (partsStmt nid cs).eval db = pairs.map (partsRow nid cs) := by
  simp only [partsStmt, Rel.eval, h, List.map_map]
  exact List.map_congr_left fun r _ => parts_project nid cs r

theorem filter_keeps_none (prior : Val) (cs : List Comparison) (pairs : List Row) :
    pairs.filter (keeps prior none cs) = pairs :=
  List.filter_eq_self.mpr fun _ _ => rfl

theorem weight_keeps (nid : Nat) (prior : Val) (cs : List Comparison) (t : Val) (r : Row) :
    (Expr.cmp Cmp.ge (weightExpr prior (bfCols nid cs)) (Expr.lit t)).holds (partsRow nid cs r) = keeps prior (some t) cs r := by
  simp only [Expr.holds, Expr.eval, weightExpr_eval, bfCols_parts, keeps]

theorem predict_eval (nid : Nat) (inf prior : Val) (thr : Option Val) (cs : List Comparison) (db : Db) (pairs : List Row)
    (h : db "__splink__df_match_weight_parts" = pairs.map (partsRow nid cs)) :
    (predictStmt nid inf prior thr cs).eval db = (pairs.filter (keeps prior thr cs)).map (predictRow nid inf prior cs) := by
  cases thr with
  | none =>
    simp only [predictStmt, Rel.eval, h, List.map_map]
    rw [filter_keeps_none]
    exact List.map_congr_left fun r _ => predict_project nid inf prior cs r
  | some t =>
    simp only [predictStmt, Rel.eval, h, List.filter_map, List.map_map]
    have hf : pairs.filter ((Expr.cmp Cmp.ge (weightExpr prior (bfCols nid cs)) (Expr.lit t)).holds ∘ partsRow nid cs)
        = pairs.filter (keeps prior (some t) cs) :=
      List.filter_congr fun r _ => weight_keeps nid prior cs t r
    rw [hf]
    exact List.map_congr_left fun r _ => predict_project nid inf prior cs r

theorem parts_bound (nid : Nat) (cs : List Comparison) (db : Db) :
    (partsStmt nid cs).eval (Db.set db "__splink__df_comparison_vectors" ((cvStmt nid cs).eval db))
      = (db "blocked_with_cols").map (partsRow nid cs) :=
  parts_eval nid cs _ _ ((set_same db _ _).trans (cv_eval nid cs db))

/-- the three statements run in the order of the pipeline, on ANY database: the rows of `__splink__df_predict` -/
theorem pipeline_predict (nid : Nat) (inf prior : Val) (thr : Option Val) (cs : List Comparison) (db : Db) :
    runStmts db (pipeline nid inf prior thr cs) "__splink__df_predict"
      = ((db "blocked_with_cols").filter (keeps prior thr cs)).map (predictRow nid inf prior cs) := by
  simp only [pipeline, runStmts]
  rw [set_same]
  exact predict_eval nid inf prior thr cs _ _ ((set_same _ _ _).trans (parts_bound nid cs db))

/-- … and those of the intermediate table `__splink__df_match_weight_parts` -/
theorem pipeline_parts (nid : Nat) (inf prior : Val) (thr : Option Val) (cs : List Comparison) (db : Db) :
    runStmts db (pipeline nid inf prior thr cs) "__splink__df_match_weight_parts" = (db "blocked_with_cols").map (partsRow nid cs) := by
  simp only [pipeline, runStmts]
  -- the last statement binds another name
  rw [Db.set, if_neg (by simp only [String.reduceBEq, Bool.false_eq_true, not_false_eq_true]), set_same]
  exact parts_bound nid cs db

/-! ## A left-associated `OR` in three-valued logic -/

theorem or3_true_right (a : Val) : or3 a (Val.bool true) = Val.bool true := by
  cases a with
  | bool b => cases b <;> rfl
  | _ => rfl

/-- A disjunction that has become TRUE stays TRUE, whatever follows (NULL included). -/
theorem foldl_or3_true (f : Val → Val) : ∀ (vs : List Val),
    vs.foldl (fun acc x => or3 acc (f x)) (Val.bool true) = Val.bool true
  | [] => rfl
  | _ :: vs => foldl_or3_true f vs

theorem foldl_or3_of_mem (f : Val → Val) {x : Val} (hx : f x = Val.bool true) : ∀ (vs : List Val) (acc : Val),
    x ∈ vs → vs.foldl (fun acc x => or3 acc (f x)) acc = Val.bool true
  | [], _, h => nomatch h
  | v :: vs, acc, h => by
    rw [List.foldl_cons]
    rcases List.mem_cons.mp h with rfl | h
    · rw [hx, or3_true_right]
      exact foldl_or3_true f vs
    · exact foldl_or3_of_mem f hx vs _ h

theorem foldl_or3_false (f : Val → Val) : ∀ (vs : List Val), (∀ x ∈ vs, f x = Val.bool false) →
    vs.foldl (fun acc x => or3 acc (f x)) (Val.bool false) = Val.bool false
  | [], _ => rfl
  | v :: vs, h => by
    rw [List.foldl_cons, h v List.mem_cons_self]
    exact foldl_or3_false f vs fun x hx => h x (List.mem_cons_of_mem _ hx)

theorem or3_false_bool (t : Bool) : or3 (Val.bool false) (Val.bool t) = Val.bool t := by
  cases t <;> rfl

/-- A comparison yields a truth value or NULL, so `FALSE OR` leaves it as it is. -/
theorem or3_false_cmp (c : Cmp) (a b : Val) : or3 (Val.bool false) (c.eval a b) = c.eval a b := by
  unfold Cmp.eval
  split
  · rfl
  · rfl
  · exact or3_false_bool _

/-! ## The value of `match_probability` -/

theorem productVal_rat (p : Rat) (qs : List Rat) :
    productVal (Val.rat p) (qs.map Val.rat) = Val.rat (qs.foldl (· * ·) p) := by
  induction qs generalizing p with
  | nil => rfl
  | cons q qs ih =>
    simp only [productVal, List.map_cons, List.foldl_cons] at ih ⊢
    have : Arith.mul.eval (Val.rat p) (Val.rat q) = Val.rat (p * q) := by simp [Arith.eval, Val.toRat?]
    rw [this]
    exact ih (p * q)

/-- `inf` stands for float8 +∞: not NULL and not a finite number -/
structure IsInf (inf : Val) : Prop where
  ne_null : inf ≠ Val.null
  ne_rat : ∀ q : Rat, inf ≠ Val.rat q

theorem eq_inf_rat {inf : Val} (hi : IsInf inf) (q : Rat) : Cmp.eq.eval (Val.rat q) inf = Val.bool false := by
  have h1 := hi.ne_null
  have h2 := hi.ne_rat q
  cases inf with
  | null => exact absurd rfl h1
  | rat q' =>
    have : q ≠ q' := fun e => h2 (by rw [e])
    simp [Cmp.eval, this]
  | _ => simp [Cmp.eval]

theorem eq_inf_inf {inf : Val} (hi : IsInf inf) : Cmp.eq.eval inf inf = Val.bool true := by
  have h1 := hi.ne_null
  cases inf <;> simp_all [Cmp.eval]

/-- The disjunction may be started from `FALSE` instead of its first member. -/
theorem anyInfVal_eq_foldl (inf : Val) (vs : List Val) :
    anyInfVal inf vs = vs.foldl (fun acc x => or3 acc (Cmp.eq.eval x inf)) (Val.bool false) := by
  cases vs with
  | nil => rfl
  | cons v vs => rw [anyInfVal, List.foldl_cons, or3_false_cmp]

theorem anyInfVal_mem {inf : Val} (hi : IsInf inf) (vs : List Val) (h : inf ∈ vs) :
    anyInfVal inf vs = Val.bool true :=
  (anyInfVal_eq_foldl inf vs).trans (foldl_or3_of_mem (Cmp.eq.eval · inf) (eq_inf_inf hi) vs _ h)

theorem anyInfVal_rat {inf : Val} (hi : IsInf inf) (qs : List Rat) :
    anyInfVal inf (qs.map Val.rat) = Val.bool false :=
  (anyInfVal_eq_foldl inf _).trans <| foldl_or3_false (Cmp.eq.eval · inf) _ fun x hx => by
    obtain ⟨q, -, rfl⟩ := List.mem_map.mp hx
    exact eq_inf_rat hi q

/-- An infinite factor: `match_probability = 1`, whatever the other factors are (finite, infinite, NULL) -/
theorem probVal_inf {inf : Val} (hi : IsInf inf) (prior : Val) (vs : List Val) (h : inf ∈ vs) :
    probVal inf prior vs = Val.rat 1 := by
  have h1 : ((1 : Rat) / 1) = 1 := by grind
  simp [probVal, anyInfVal_mem hi vs h, h1]

/-- Finite factors: `match_probability = B / (1 + B)` in exact rationals, `B` = prior odds × the factors (NULL iff `1 + B = 0`) -/
theorem probVal_finite {inf : Val} (hi : IsInf inf) (p : Rat) (qs : List Rat) :
    probVal inf (Val.rat p) (qs.map Val.rat) =
      (if 1 + qs.foldl (· * ·) p = 0 then Val.null else Val.rat (qs.foldl (· * ·) p / (1 + qs.foldl (· * ·) p))) := by
  simp only [probVal, anyInfVal_rat hi, productVal_rat]
  simp [Arith.eval, Val.toRat?]

end SplinkVerif.Lemmas.ScoreSql
