import SplinkVerif.Model.Cache
/-!
# Lemmas for C07 (cache soundness)

What each operation of the table cache model (`Model/Cache.lean`) does to the catalog and the dict; the
relation `Shrinks` (tables and entries removed) that the dropping operations satisfy, along which the state
invariant `Inv` and that of `Lemmas/Tables.lean` are kept; preservation of `Inv` by every operation except the
silent `mutate` (`inv_applyOp`, `inv_run`), and the value a request returns in a state satisfying it
(`request_val_of_inv`); soundness of the realtime SQL cache (`rtRun_sound`).
-/
namespace SplinkVerif.Lemmas.CacheL
open SplinkVerif SplinkVerif.Cache

/-! ## Assumptions on a history -/

/-- the hash separates different SQL texts and different cache uids -/
def HashInj (hash : Nat → Nat → Nat) : Prop :=
  ∀ t u t' u', hash t u = hash t' u' → t = t' ∧ u = u'

/-- Tables kept under a templated name (`__splink__df_concat_with_tf`, `__splink__df_tf_<col>`, …) are
served to *every* request for that templated name, whatever its SQL text. This is sound as long as
all requests for such a name mean the same query (`namedText templ`) — true for one linker over
fixed settings, its training copies included. -/
def NamedDiscipline (namedText : Nat → Nat) (ops : List Op) : Prop :=
  ∀ r, (Op.req r ∈ ops ∨ Op.computeNamed r ∈ ops) →
    (∃ r', Op.computeNamed r' ∈ ops ∧ r'.templ = r.templ) → r.text = namedText r.templ

/-- The input data are never changed behind Splink's back (no `mutate` event): every change comes with
`invalidate_cache()` (`mutateInvalidate`) or goes through Splink (`reregister`). -/
def NoSilentMutation (ops : List Op) : Prop := Op.mutate ∉ ops

/-! ## Dictionary and catalog as association lists -/

/-- `cacheGet` and `dbGet` are both this lookup -/
theorem lookup_mem {α β : Type} [BEq α] [LawfulBEq α] {a : α} {b : β} {l : List (α × β)}
    (h : (l.find? fun x => x.1 == a).map (·.2) = some b) : (a, b) ∈ l := by
  obtain ⟨⟨a', b'⟩, hf, rfl⟩ := Option.map_eq_some_iff.1 h
  have ha := List.find?_some hf
  cases eq_of_beq ha
  exact List.mem_of_find?_eq_some hf

theorem cacheGet_mem {k : Key} {c : List (Key × Entry)} {e : Entry}
    (h : cacheGet k c = some e) : (k, e) ∈ c := lookup_mem h

theorem dbGet_mem {p : Phys} {db : List (Phys × Nat)} {v : Nat}
    (h : dbGet p db = some v) : (p, v) ∈ db := lookup_mem h

theorem dbGet_isSome_of_mem {p : Phys} {v : Nat} {db : List (Phys × Nat)} (h : (p, v) ∈ db) :
    (dbGet p db).isSome = true := by
  unfold dbGet
  rw [Option.isSome_map, List.find?_isSome]
  exact ⟨(p, v), h, beq_self_eq_true p⟩

theorem mem_cacheSet {k : Key} {e : Entry} {c : List (Key × Entry)} {x : Key × Entry} :
    x ∈ cacheSet k e c ↔ x = (k, e) ∨ x ∈ c ∧ x.1 ≠ k := by
  simp [cacheSet]

/-- Used as `mem_cacheSet_ne (by nofun)` for keys of different kinds: the tactic block is run once the keys are
known, whereas the term `nofun` would be elaborated before them. -/
theorem mem_cacheSet_ne {k k' : Key} (hne : k' ≠ k) {e e' : Entry} {c : List (Key × Entry)} :
    (k', e') ∈ cacheSet k e c ↔ (k', e') ∈ c :=
  mem_cacheSet.trans
    ⟨fun h => h.elim (fun he => absurd (congrArg Prod.fst he) hne) (·.1), fun h => .inr ⟨h, hne⟩⟩

theorem mem_dbDel {p : Phys} {db : List (Phys × Nat)} {x : Phys × Nat} :
    x ∈ dbDel p db ↔ x ∈ db ∧ x.1 ≠ p := by
  simp [dbDel]

theorem mem_dbSet {p : Phys} {v : Nat} {db : List (Phys × Nat)} {x : Phys × Nat} :
    x ∈ dbSet p v db ↔ x = (p, v) ∨ x ∈ db ∧ x.1 ≠ p :=
  List.mem_cons.trans (or_congr_right mem_dbDel)

/-! ## Removing tables and entries -/

/-- `s'` is `s` with catalog tables and dict entries taken away, except that an entry Splink created and holds
under its own physical name stays as long as its table does.  Both invariants (`Inv` below and `TablesL.Inv`)
are kept along it. -/
structure Shrinks (s s' : State) : Prop where
  uid : s'.uid = s.uid
  data : s'.data = s.data
  db : ∀ x ∈ s'.db, x ∈ s.db
  cache : ∀ x ∈ s'.cache, x ∈ s.cache
  keep : ∀ (e : Entry) (v : Nat), e.createdBySplink = true → (e.phys, v) ∈ s'.db →
    (Key.phys e.phys, e) ∈ s.cache → (Key.phys e.phys, e) ∈ s'.cache

theorem Shrinks.refl (s : State) : Shrinks s s :=
  ⟨rfl, rfl, fun _ h => h, fun _ h => h, fun _ _ _ _ h => h⟩

theorem Shrinks.trans {s₁ s₂ s₃ : State} (h : Shrinks s₁ s₂) (h' : Shrinks s₂ s₃) : Shrinks s₁ s₃ where
  uid := h'.uid.trans h.uid
  data := h'.data.trans h.data
  db x hx := h.db x (h'.db x hx)
  cache x hx := h.cache x (h'.cache x hx)
  keep e v hc hv he := h'.keep e v hc hv (h.keep e v hc (h'.db _ hv) he)

theorem mem_dropTable_cache {s : State} {p : Phys} {x : Key × Entry} :
    x ∈ (dropTable s p).cache ↔ x ∈ s.cache ∧ x.2.phys ≠ p := by
  simp [dropTable]

theorem shrinks_dropTable (s : State) (p : Phys) : Shrinks s (dropTable s p) where
  uid := rfl
  data := rfl
  db _ h := (mem_dbDel.1 h).1
  cache _ h := (mem_dropTable_cache.1 h).1
  keep _ _ _ h he := mem_dropTable_cache.2 ⟨he, (mem_dbDel.1 h).2⟩

theorem shrinks_forgetNamed (s : State) (t : Nat) : Shrinks s (forgetNamed s t) where
  uid := rfl
  data := rfl
  db _ h := h
  cache _ h := (List.mem_filter.1 h).1
  keep _ _ _ _ he := List.mem_filter.2 ⟨he, rfl⟩

theorem mem_forgetAllNamed_cache {s : State} {x : Key × Entry} :
    x ∈ (forgetAllNamed s).cache ↔ x ∈ s.cache ∧ ∀ t, x.1 ≠ .named t := by
  obtain ⟨k, e⟩ := x
  cases k <;> simp [forgetAllNamed]

theorem shrinks_foldl_dropTable (l : List Phys) (s : State) : Shrinks s (l.foldl dropTable s) :=
  List.foldlRecOn l dropTable (.refl s) fun b h p _ => h.trans (shrinks_dropTable b p)

theorem foldl_dropTable_db_sub (l : List Phys) (s : State) {x : Phys × Nat}
    (h : x ∈ (l.foldl dropTable s).db) : x ∈ s.db := (shrinks_foldl_dropTable l s).db x h

theorem mem_foldl_dropTable_db (l : List Phys) (s : State) {x : Phys × Nat} :
    x ∈ (l.foldl dropTable s).db ↔ x ∈ s.db ∧ x.1 ∉ l := by
  induction l generalizing s with
  | nil => simp
  | cons p l ih =>
    rw [List.foldl_cons, ih, show (dropTable s p).db = dbDel p s.db from rfl, mem_dbDel,
      List.mem_cons, not_or, and_assoc]


/-- the tables `delete_tables_created_by_splink_from_db` drops -/
def victims (s : State) : List Phys :=
  (s.cache.filter fun q => q.2.createdBySplink && q.1 == .phys q.2.phys).map (·.2.phys)

theorem deleteCreated_eq (s : State) : deleteCreated s = (victims s).foldl dropTable s := rfl

theorem mem_victims {s : State} {p : Phys} :
    p ∈ victims s ↔
      ∃ e : Entry, (Key.phys e.phys, e) ∈ s.cache ∧ e.createdBySplink = true ∧ e.phys = p := by
  constructor
  · intro h
    obtain ⟨⟨k, e⟩, hm, hp⟩ := List.mem_map.1 h
    obtain ⟨h1, h2⟩ := List.mem_filter.1 hm
    obtain ⟨hc, hk⟩ := Bool.and_eq_true_iff.1 h2
    exact ⟨e, eq_of_beq hk ▸ h1, hc, hp⟩
  · rintro ⟨e, h, hc, hp⟩
    exact List.mem_map.2
      ⟨(Key.phys e.phys, e), List.mem_filter.2 ⟨h, Bool.and_eq_true_iff.2 ⟨hc, beq_self_eq_true _⟩⟩, hp⟩

theorem mem_deleteCreated_db {s : State} {x : Phys × Nat} :
    x ∈ (deleteCreated s).db ↔ x ∈ s.db ∧
      ∀ e : Entry, (Key.phys e.phys, e) ∈ s.cache → e.createdBySplink = true → e.phys ≠ x.1 := by
  rw [deleteCreated_eq, mem_foldl_dropTable_db, mem_victims]
  exact and_congr_right fun _ =>
    ⟨fun h e he hc hp => h ⟨e, he, hc, hp⟩, fun h ⟨e, he, hc, hp⟩ => h e he hc hp⟩

theorem shrinks_deleteCreated (s : State) : Shrinks s (deleteCreated s) :=
  shrinks_foldl_dropTable (victims s) s

theorem invalidate_db (s : State) : (invalidate s).db = (deleteCreated s).db := rfl

/-- `invalidate_cache()` may empty the dict: no table stays that one of its entries tracked. -/
theorem shrinks_invalidate (s : State) : Shrinks s (invalidate s) where
  uid := (shrinks_deleteCreated s).uid
  data := (shrinks_deleteCreated s).data
  db := (shrinks_deleteCreated s).db
  cache _ h := nomatch h
  keep e _ hc h he := absurd rfl ((mem_deleteCreated_db.1 h).2 e he hc)

theorem mutateInvalidate_uid (s : State) : (mutateInvalidate s).uid = s.uid :=
  (shrinks_invalidate { s with data := s.data + 1 }).uid
theorem mutateInvalidate_data (s : State) : (mutateInvalidate s).data = s.data + 1 :=
  (shrinks_invalidate { s with data := s.data + 1 }).data
theorem reregister_uid (s : State) : (reregister s).uid = s.uid + 1 := rfl
theorem reregister_data (s : State) : (reregister s).data = s.data + 1 := rfl
theorem reregister_db (s : State) : (reregister s).db = s.db := rfl

/-! ## Requests -/

section
variable {hash eval : Nat → Nat → Nat}

theorem execute_val (s : State) (r : Req) : (execute hash eval s r).val = eval r.text s.data := rfl

theorem request_cases (s : State) (r : Req) :
    request hash eval s r = execute hash eval s r ∨
    ∃ v, request hash eval s r = ⟨s, v, true⟩ ∧
      ((∃ e, (Key.named r.templ, e) ∈ s.cache ∧ e.val = v) ∨
        (∃ e, (Key.phys ⟨r.templ, hash r.text s.uid⟩, e) ∈ s.cache ∧ e.val = v) ∨
        ((⟨r.templ, hash r.text s.uid⟩ : Phys), v) ∈ s.db) := by
  unfold request
  dsimp only
  cases r.useCache with
  | false => exact .inl rfl
  | true =>
    cases h1 : cacheGet (.named r.templ) s.cache with
    | some e => exact .inr ⟨_, rfl, .inl ⟨e, cacheGet_mem h1, rfl⟩⟩
    | none =>
      cases h2 : cacheGet (.phys ⟨r.templ, hash r.text s.uid⟩) s.cache with
      | some e => exact .inr ⟨_, rfl, .inr (.inl ⟨e, cacheGet_mem h2, rfl⟩)⟩
      | none =>
        cases h3 : dbGet ⟨r.templ, hash r.text s.uid⟩ s.db with
        | some v => exact .inr ⟨_, rfl, .inr (.inr (dbGet_mem h3))⟩
        | none => exact .inl rfl

theorem request_state (s : State) (r : Req) :
    (request hash eval s r).state = s ∨
      (request hash eval s r).state = (execute hash eval s r).state := by
  rcases request_cases (hash := hash) (eval := eval) s r with h | ⟨v, h, _⟩
  · exact .inr (congrArg Result.state h)
  · exact .inl (congrArg Result.state h)

/-- `execute` changes neither the uid nor the data, so both cases of `request_state` give `rfl`. -/
theorem request_uid (s : State) (r : Req) : (request hash eval s r).state.uid = s.uid :=
  (request_state s r).elim (congrArg State.uid) (congrArg State.uid)

theorem request_data (s : State) (r : Req) : (request hash eval s r).state.data = s.data :=
  (request_state s r).elim (congrArg State.data) (congrArg State.data)

end

/-! ## The invariant -/

/-- `h` is not the hash of anything under a salt that has not been drawn yet -/
def Old (hash : Nat → Nat → Nat) (uid h : Nat) : Prop := ∀ text u, h = hash text u → u ≤ uid

theorem old_succ {hash : Nat → Nat → Nat} {uid h : Nat} (ho : Old hash uid h) : Old hash (uid + 1) h :=
  fun text u hh => Nat.le_succ_of_le (ho text u hh)

theorem old_ne {hash : Nat → Nat → Nat} {uid h : Nat} (ho : Old hash uid h) (text : Nat) :
    h ≠ hash text (uid + 1) :=
  fun hh => Nat.not_succ_le_self _ (ho text _ hh)

theorem old_hash {hash : Nat → Nat → Nat} (hinj : HashInj hash) (text uid : Nat) :
    Old hash uid (hash text uid) :=
  fun _ _ hh => Nat.le_of_eq (hinj _ _ _ _ hh).2.symm

section
variable (hash eval : Nat → Nat → Nat) (namedText : Nat → Nat) (D : Nat → Prop)

/-- The part of the invariant that does not mention the data, so that a silent `mutate` keeps it.
Every catalog table whose name is the hash of some SQL text under the CURRENT uid (salt) is tracked by the
dictionary under its own physical name as created by Splink, with the same contents — so `invalidate_cache()`
drops it; no catalog table and no hashed entry of the dictionary is named by a hash under a salt that has not
been drawn yet. -/
structure Tracks (s : State) : Prop where
  tracked : ∀ p v, (p, v) ∈ s.db → ∀ text, p.hash = hash text s.uid →
    (Key.phys p, (⟨p, v, true⟩ : Entry)) ∈ s.cache
  dbOld : ∀ p v, (p, v) ∈ s.db → Old hash s.uid p.hash
  physOld : ∀ p e, (Key.phys p, e) ∈ s.cache → Old hash s.uid p.hash

/-- `Tracks`, and the dictionary is up to date: the entries hashed under the current salt hold the current
contents of their query (those hashed under an older salt may be stale: no request can reach them any more);
every named entry holds the current contents of its query.
`D templ` : the templated name is one that the history computes under its name. -/
structure Inv (s : State) : Prop extends Tracks hash s where
  phys : ∀ p e, (Key.phys p, e) ∈ s.cache → ∀ text, p.hash = hash text s.uid → e.val = eval text s.data
  named : ∀ t e, (Key.named t, e) ∈ s.cache → D t ∧ e.val = eval (namedText t) s.data

theorem inv_init : Inv hash eval namedText D init where
  tracked _ _ h := absurd h List.not_mem_nil
  dbOld _ _ h := absurd h List.not_mem_nil
  physOld _ _ h := absurd h List.not_mem_nil
  phys _ _ h := absurd h List.not_mem_nil
  named _ _ h := absurd h List.not_mem_nil

variable {hash eval namedText D}

/-- The heart of C07: in a state satisfying the invariant, a request returns the current contents
of its SQL. (A catalog table named by the current hash is always tracked by the dict, so the
catalog-hit branch returns the value of a hashed dict entry.) -/
theorem request_val_of_inv {s : State} (hI : Inv hash eval namedText D s)
    (r : Req) (hr : D r.templ → r.text = namedText r.templ) :
    (request hash eval s r).val = eval r.text s.data := by
  rcases request_cases (hash := hash) (eval := eval) s r with h | ⟨v, h, hv⟩
  · rw [h, execute_val]
  · rw [h]
    show v = _
    rcases hv with ⟨e, he, rfl⟩ | ⟨e, he, rfl⟩ | hv
    · obtain ⟨hd, hv⟩ := hI.named _ _ he
      rw [hv, hr hd]
    · exact hI.phys _ _ he r.text rfl
    · exact hI.phys _ _ (hI.tracked _ _ hv r.text rfl) r.text rfl

theorem inv_store {s : State} (hI : Inv hash eval namedText D s) (q : Phys) (w : Nat)
    (hold : Old hash s.uid q.hash) (hw : ∀ text, q.hash = hash text s.uid → w = eval text s.data) :
    Inv hash eval namedText D
      { s with db := dbSet q w s.db, cache := cacheSet (.phys q) ⟨q, w, true⟩ s.cache } where
  tracked p v h text hh := by
    rcases mem_dbSet.1 h with h | ⟨h, hne⟩
    · cases h
      exact mem_cacheSet.2 (.inl rfl)
    · exact mem_cacheSet.2 (.inr ⟨hI.tracked p v h text hh, fun hk => hne (Key.phys.inj hk)⟩)
  dbOld p v h := by
    rcases mem_dbSet.1 h with h | ⟨h, _⟩
    · cases h
      exact hold
    · exact hI.dbOld p v h
  physOld p e h := by
    rcases mem_cacheSet.1 h with h | ⟨h, _⟩
    · cases h
      exact hold
    · exact hI.physOld p e h
  phys p e h := by
    rcases mem_cacheSet.1 h with h | ⟨h, _⟩
    · cases h
      exact hw
    · exact hI.phys p e h
  named t e h := by
    rcases mem_cacheSet.1 h with h | ⟨h, _⟩
    · cases h
    · exact hI.named t e h

theorem inv_request (hinj : HashInj hash) {s : State} (hI : Inv hash eval namedText D s) (r : Req) :
    Inv hash eval namedText D (request hash eval s r).state := by
  rcases request_state (hash := hash) (eval := eval) s r with h | h
  · rw [h]
    exact hI
  · rw [h]
    exact inv_store hI _ _ (old_hash hinj _ _) fun _ hh => congrArg (eval · s.data) (hinj _ _ _ _ hh).1

theorem inv_setNamed {s : State} (hI : Inv hash eval namedText D s) {t : Nat} {e : Entry} (hD : D t)
    (hv : e.val = eval (namedText t) s.data) :
    Inv hash eval namedText D { s with cache := cacheSet (.named t) e s.cache } where
  tracked p v h text hh := (mem_cacheSet_ne (by nofun)).2 (hI.tracked p v h text hh)
  dbOld := hI.dbOld
  physOld p e h := hI.physOld p e ((mem_cacheSet_ne (by nofun)).1 h)
  phys p e h := hI.phys p e ((mem_cacheSet_ne (by nofun)).1 h)
  named t' e' h := by
    rcases mem_cacheSet.1 h with h | ⟨h, _⟩
    · cases h
      exact ⟨hD, hv⟩
    · exact hI.named t' e' h

theorem inv_computeNamed (hinj : HashInj hash) {s : State} (hI : Inv hash eval namedText D s)
    (r : Req) (hD : D r.templ) (hr : r.text = namedText r.templ) :
    Inv hash eval namedText D (applyOp hash eval s (.computeNamed r)) :=
  inv_setNamed (inv_request hinj hI r) hD <| by
    rw [request_data, ← hr]
    exact request_val_of_inv hI r fun _ => hr

theorem Tracks.setData {s : State} (hT : Tracks hash s) (d : Nat) : Tracks hash { s with data := d } :=
  ⟨hT.tracked, hT.dbOld, hT.physOld⟩

theorem Tracks.shrink {s s' : State} (hT : Tracks hash s) (hS : Shrinks s s') : Tracks hash s' where
  tracked p v h text hh := hS.keep ⟨p, v, true⟩ v rfl h (hT.tracked p v (hS.db _ h) text (hS.uid ▸ hh))
  dbOld p v h := hS.uid ▸ hT.dbOld p v (hS.db _ h)
  physOld p e h := hS.uid ▸ hT.physOld p e (hS.cache _ h)

theorem inv_shrink {s s' : State} (hI : Inv hash eval namedText D s) (hS : Shrinks s s') :
    Inv hash eval namedText D s' where
  toTracks := hI.toTracks.shrink hS
  phys p e h text hh := hS.data ▸ hI.phys p e (hS.cache _ h) text (hS.uid ▸ hh)
  named t e h := hS.data ▸ hI.named t e (hS.cache _ h)

/-- `invalidate_cache()` restores the invariant whatever happened to the data since it held: the dict is
empty. -/
theorem inv_invalidate {s : State} (hI : Inv hash eval namedText D s) (d : Nat) :
    Inv hash eval namedText D (invalidate { s with data := d }) where
  toTracks := (hI.toTracks.setData d).shrink (shrinks_invalidate _)
  phys _ _ h := nomatch h
  named _ _ h := nomatch h

/-- Re-drawing the salt restores the invariant whatever happened to the data since it held, provided the
named entries that are left are valid: no catalog table is named by a hash under the new salt and none of
the hashed dict entries can be reached any more. -/
theorem inv_resalt_of {s : State} (hI : Inv hash eval namedText D s) (d : Nat) (c : List (Key × Entry))
    (hc : ∀ x ∈ c, x ∈ s.cache)
    (hn : ∀ t e, (Key.named t, e) ∈ c → D t ∧ e.val = eval (namedText t) d) :
    Inv hash eval namedText D { s with uid := s.uid + 1, data := d, cache := c } where
  tracked p v h text hh := absurd hh (old_ne (hI.dbOld p v h) text)
  dbOld p v h := old_succ (hI.dbOld p v h)
  physOld p e h := old_succ (hI.physOld p e (hc _ h))
  phys p e h text hh := absurd hh (old_ne (hI.physOld p e (hc _ h)) text)
  named := hn

theorem inv_resalt {s : State} (hI : Inv hash eval namedText D s) :
    Inv hash eval namedText D (resalt s) :=
  inv_resalt_of hI s.data s.cache (fun _ h => h) hI.named

theorem inv_reregister {s : State} (hI : Inv hash eval namedText D s) :
    Inv hash eval namedText D (reregister s) :=
  have hm := fun x => (mem_forgetAllNamed_cache (s := { s with data := s.data + 1 }) (x := x)).1
  inv_resalt_of hI (s.data + 1) _ (fun x h => (hm x h).1) fun t _ h => absurd rfl ((hm _ h).2 t)

theorem inv_applyOp (hinj : HashInj hash) {s : State} (hI : Inv hash eval namedText D s) (op : Op)
    (hmut : op ≠ .mutate)
    (hD : ∀ r, op = .computeNamed r → D r.templ ∧ r.text = namedText r.templ) :
    Inv hash eval namedText D (applyOp hash eval s op) := by
  cases op with
  | req r => exact inv_request hinj hI r
  | computeNamed r => exact inv_computeNamed hinj hI r (hD r rfl).1 (hD r rfl).2
  | drop p => exact inv_shrink hI (shrinks_dropTable s p)
  | forgetNamed t => exact inv_shrink hI (shrinks_forgetNamed s t)
  | invalidate => exact inv_invalidate hI s.data
  | mutateInvalidate => exact inv_invalidate hI (s.data + 1)
  | mutate => exact absurd rfl hmut
  | deleteCreated => exact inv_shrink hI (shrinks_deleteCreated s)
  | resalt => exact inv_resalt hI
  | reregister => exact inv_reregister hI

theorem inv_run (hinj : HashInj hash) (ops : List Op) {s : State} (hI : Inv hash eval namedText D s)
    (hmut : Op.mutate ∉ ops)
    (hD : ∀ r, Op.computeNamed r ∈ ops → D r.templ ∧ r.text = namedText r.templ) :
    Inv hash eval namedText D (run hash eval s ops) :=
  List.foldlRecOn ops _ hI fun _ h op hop =>
    inv_applyOp hinj h op (fun he => hmut (he ▸ hop)) fun r he => hD r (he ▸ hop)

end

/-! ## Histories -/

theorem run_append (hash eval : Nat → Nat → Nat) (s : State) (a b : List Op) :
    run hash eval s (a ++ b) = run hash eval (run hash eval s a) b :=
  List.foldl_append

theorem applyOp_data_le (hash eval : Nat → Nat → Nat) (s : State) (op : Op) :
    s.data ≤ (applyOp hash eval s op).data := by
  cases op with
  | req r => exact Nat.le_of_eq (request_data s r).symm
  | computeNamed r => exact Nat.le_of_eq (request_data s r).symm
  | invalidate => exact Nat.le_of_eq (shrinks_invalidate s).data.symm
  | mutateInvalidate =>
    show s.data ≤ (mutateInvalidate s).data
    rw [mutateInvalidate_data]
    exact Nat.le_succ _
  | deleteCreated => exact Nat.le_of_eq (shrinks_deleteCreated s).data.symm
  | mutate | reregister => exact Nat.le_succ _
  | drop | forgetNamed | resalt => exact Nat.le_refl _

theorem run_data_le (hash eval : Nat → Nat → Nat) (ops : List Op) (s : State) :
    s.data ≤ (run hash eval s ops).data :=
  List.foldlRecOn ops _ (motive := fun s' : State => s.data ≤ s'.data) (Nat.le_refl _) fun s' h op _ =>
    Nat.le_trans h (applyOp_data_le hash eval s' op)

/-! ## An injective hash, for the counterexamples -/

def tri : Nat → Nat
  | 0 => 0
  | n + 1 => tri n + n + 1

/-- Cantor pairing (`tri`: the triangular numbers): a provably injective witness for the hash -/
def pairHash (t u : Nat) : Nat := tri (t + u) + u

theorem tri_lt {a b : Nat} (h : a < b) : tri a + a < tri b := by
  induction b with
  | zero => nomatch h
  | succ b ih =>
    show tri a + a < tri b + b + 1
    rcases Nat.lt_succ_iff_lt_or_eq.1 h with h | rfl
    · exact Nat.lt_succ_of_lt (Nat.lt_of_lt_of_le (ih h) (Nat.le_add_right _ _))
    · exact Nat.lt_succ_self _

theorem pairHash_lt {t u t' u' : Nat} (h : t + u < t' + u') : pairHash t u < pairHash t' u' :=
  calc tri (t + u) + u ≤ tri (t + u) + (t + u) := Nat.add_le_add_left (Nat.le_add_left u t) _
    _ < tri (t' + u') := tri_lt h
    _ ≤ tri (t' + u') + u' := Nat.le_add_right _ _

theorem pairHash_inj : HashInj pairHash := by
  intro t u t' u' h
  rcases Nat.lt_trichotomy (t + u) (t' + u') with hlt | heq | hgt
  · exact absurd h (Nat.ne_of_lt (pairHash_lt hlt))
  · unfold pairHash at h
    rw [heq] at h
    cases Nat.add_left_cancel h
    exact ⟨Nat.add_right_cancel heq, rfl⟩
  · exact absurd h (Nat.ne_of_gt (pairHash_lt hgt))

/-! ## Realtime SQL cache -/

theorem rtRun_sound {κ : Type} [DecidableEq κ] (key : RtCall → κ) (sqlOf : RtCall → Nat)
    (hkey : ∀ x y, key x = key y → sqlOf x = sqlOf y) (calls : List RtCall) (c : List (κ × Nat))
    (hc : ∀ p, p ∈ c → ∀ x, key x = p.1 → sqlOf x = p.2) :
    rtRun key sqlOf c calls = calls.map sqlOf := by
  induction calls generalizing c with
  | nil => rfl
  | cons x xs ih =>
    unfold rtRun
    split
    · next p hf =>
      have h1 := List.find?_some hf
      have h1 : p.1 = key x := of_decide_eq_true h1
      rw [ih c hc, List.map_cons, hc p (List.mem_of_find?_eq_some hf) x h1.symm]
    · rw [List.map_cons, ih]
      intro p hp y hy
      rcases List.mem_cons.1 hp with hp | hp
      · subst hp; exact hkey y x hy
      · exact hc p hp y hy

end SplinkVerif.Lemmas.CacheL
