import SplinkVerif.Lemmas.OneToOne
/-!
# C12 — connectivity of single-best-link clusters for tie-free inputs

`connected_tie_free`: with pairwise distinct probabilities every cluster returned by the
model of `one_to_one_clustering` is connected through kept edges inside the cluster — for
every instance and every pair of tie-break oracles.

The proof compares the run with the **constrained
Kruskal forest** `KS I`: go through the kept edges by decreasing probability and accept an
edge iff its end points lie in different trees accepted so far and these two trees do not
hold records of one duplicate-free dataset (`lvl`, one level per probability value).

* `ks_clash` (K2) — a kept edge whose end points are in different Kruskal clusters was
  rejected because the clusters *built from heavier accepted edges* already clashed;
* `ks_dupfree` (K1, tie-free) — a Kruskal cluster never holds two records of a duplicate-free
  dataset;
* `Sub` — the invariant: every representative group lies inside one Kruskal cluster.  It is
  inductive (`sub_step`): were a row accepted (rank 1 in the windows of both groups) between
  two Kruskal clusters, K2 gives two clashing records reached from its end points through
  heavier accepted edges; the two groups do not clash, so one of the two paths leaves its
  group, through a heavier edge inside one Kruskal cluster; by K1 and `Sub` that edge is a
  candidate row of the group, so the accepted row was not rank 1;
* at the exit state there is no candidate row (`no_cands_of_fix`), so no accepted Kruskal
  edge joins two groups (it would be a candidate by K1 and `Sub`): the groups **are** the
  Kruskal clusters (`run_eq_kruskal`), which are connected by construction.
-/
namespace SplinkVerif.Lemmas.O2O
open SplinkVerif SplinkVerif.OneToOne SplinkVerif.Lemmas

/-! ## The constrained Kruskal forest -/

/-- Kept edge between two records, in either orientation, with its probability. -/
def E (I : Inst) (a b w : Nat) : Prop := (a, b, w) ∈ neighbours I ∧ a < I.n ∧ b < I.n

/-- A number above every probability of `__splink__df_neighbours`. -/
def bound (I : Inst) : Nat := ((neighbours I).map fun r => r.2.2).sum + 1

/-- Adjacency of a set of weighted edges. -/
def adjOf (S : Nat → Nat → Nat → Prop) (u v : Nat) : Prop := ∃ w, S u v w

/-- Adjacency through the edges heavier than `w`. -/
def adjGt (S : Nat → Nat → Nat → Prop) (w : Nat) (u v : Nat) : Prop := ∃ w', w < w' ∧ S u v w'

/-- The `R`-components of `a` and `b` hold records of one duplicate-free dataset. -/
def Clash (I : Inst) (R : Nat → Nat → Prop) (a b : Nat) : Prop :=
  ∃ p q, p < I.n ∧ q < I.n ∧ Reach R a p ∧ Reach R b q ∧ I.ds p = I.ds q ∧ I.ds p ∈ I.dupFree

/-- Edges accepted by constrained Kruskal among those of probability `≥ bound I - d`:
level `d + 1` looks at the edges of probability `bound I - (d + 1)` and accepts those that
join two different components of level `d` which do not clash. -/
def lvl (I : Inst) : Nat → Nat → Nat → Nat → Prop
  | 0 => fun _ _ _ => False
  | d + 1 => fun a b w => lvl I d a b w ∨
      (E I a b w ∧ w + (d + 1) = bound I ∧ ¬ Reach (adjOf (lvl I d)) a b ∧
        ¬ Clash I (adjOf (lvl I d)) a b)

/-- The constrained Kruskal forest (all levels). -/
def KS (I : Inst) : Nat → Nat → Nat → Prop := lvl I (bound I)

theorem E_symm {I : Inst} {a b w : Nat} (h : E I a b w) : E I b a w :=
  ⟨neighbours_swap I (a, b, w) h.1, h.2.2, h.2.1⟩

theorem E_lt_bound {I : Inst} {a b w : Nat} (h : E I a b w) : w < bound I := by
  have : w ∈ (neighbours I).map fun r => r.2.2 := List.mem_map.mpr ⟨(a, b, w), h.1, rfl⟩
  have := Lists.le_sum_of_mem _ _ this
  unfold bound
  omega

theorem E_row {I : Inst} {a b w : Nat} (h : E I a b w) : ∃ j, ((a, b, w), j) ∈ rows I :=
  exists_mem_indexFrom _ _ _ h.1

theorem lvl_E (I : Inst) : ∀ d a b w, lvl I d a b w → E I a b w ∧ bound I ≤ w + d := by
  intro d
  induction d with
  | zero =>
    intro a b w h
    exact h.elim
  | succ d ih =>
    intro a b w h
    rcases h with h | ⟨hE, hw, _, _⟩
    · have := ih a b w h
      exact ⟨this.1, by omega⟩
    · exact ⟨hE, by omega⟩

theorem lvl_mono (I : Inst) {d d' : Nat} (hd : d ≤ d') {a b w : Nat} (h : lvl I d a b w) :
    lvl I d' a b w := by
  induction hd with
  | refl => exact h
  | step _ ih => exact Or.inl ih

theorem lvl_symm (I : Inst) : ∀ d a b w, lvl I d a b w → lvl I d b a w := by
  intro d
  induction d with
  | zero =>
    intro a b w h
    exact h.elim
  | succ d ih =>
    intro a b w h
    have hs : ∀ u v, adjOf (lvl I d) u v → adjOf (lvl I d) v u :=
      fun u v ⟨w', hw'⟩ => ⟨w', ih u v w' hw'⟩
    rcases h with h | ⟨hE, hw, hr, hc⟩
    · exact Or.inl (ih a b w h)
    · refine Or.inr ⟨E_symm hE, hw, fun h => hr (reach_symm hs h), ?_⟩
      rintro ⟨p, q, hp, hq, r1, r2, hds, hmem⟩
      exact hc ⟨q, p, hq, hp, r2, r1, hds.symm, hds ▸ hmem⟩

theorem KS_E {I : Inst} {a b w : Nat} (h : KS I a b w) : E I a b w := (lvl_E I _ a b w h).1

theorem KS_symm {I : Inst} {a b w : Nat} (h : KS I a b w) : KS I b a w := lvl_symm I _ a b w h

theorem adjKS_symm (I : Inst) : ∀ a b, adjOf (KS I) a b → adjOf (KS I) b a :=
  fun _ _ ⟨w, h⟩ => ⟨w, KS_symm h⟩

/-- K2: a kept edge between two Kruskal clusters was rejected because the clusters built from
the heavier accepted edges hold records of one duplicate-free dataset. -/
theorem ks_clash (I : Inst) {a b w : Nat} (hE : E I a b w) (hn : ¬ Reach (adjOf (KS I)) a b) :
    Clash I (adjGt (KS I) w) a b := by
  have hlt := E_lt_bound hE
  obtain ⟨d, hd⟩ : ∃ d, w + (d + 1) = bound I := ⟨bound I - w - 1, by omega⟩
  have hle : d + 1 ≤ bound I := by omega
  have hsub : ∀ u v, adjOf (lvl I d) u v → adjGt (KS I) w u v := by
    intro u v ⟨w', hw'⟩
    have := (lvl_E I d u v w' hw').2
    exact ⟨w', by omega, lvl_mono I (by omega) hw'⟩
  have hsub' : ∀ u v, adjOf (lvl I d) u v → adjOf (KS I) u v :=
    fun u v ⟨w', hw'⟩ => ⟨w', lvl_mono I (by omega) hw'⟩
  by_cases hr : Reach (adjOf (lvl I d)) a b
  · exact absurd (reach_mono hsub' hr) hn
  · by_cases hc : Clash I (adjOf (lvl I d)) a b
    · obtain ⟨p, q, hp, hq, r1, r2, hds, hmem⟩ := hc
      exact ⟨p, q, hp, hq, reach_mono hsub r1, reach_mono hsub r2, hds, hmem⟩
    · have : lvl I (d + 1) a b w := Or.inr ⟨hE, hd, hr, hc⟩
      exact absurd (reach_single ⟨w, lvl_mono I hle this⟩) hn

/-- K1 level by level: with pairwise distinct probabilities a level adds at most one edge (in its two orientations),
and that edge joins two components that do not clash. -/
theorem lvl_dupfree (I : Inst) (htf : TieFree I) : ∀ d p q, Reach (adjOf (lvl I d)) p q →
    p < I.n → q < I.n → p ≠ q → I.ds p = I.ds q → I.ds p ∈ I.dupFree → False := by
  intro d
  induction d with
  | zero =>
    intro p q hr _ _ hne _ _
    cases hr with
    | refl => exact hne rfl
    | tail _ h =>
      obtain ⟨_, h⟩ := h
      exact h.elim
  | succ d ih =>
    intro p q hr hp hq hne hds hmem
    by_cases hnew : ∃ a b w, E I a b w ∧ w + (d + 1) = bound I ∧
        ¬ Reach (adjOf (lvl I d)) a b ∧ ¬ Clash I (adjOf (lvl I d)) a b
    · obtain ⟨a, b, w, hE, hw, hnr, hnc⟩ := hnew
      have hs : ∀ u v, adjOf (lvl I d) u v → adjOf (lvl I d) v u :=
        fun u v ⟨w', hw'⟩ => ⟨w', lvl_symm I d u v w' hw'⟩
      have hadd : ∀ u v, adjOf (lvl I (d + 1)) u v →
          adjOf (lvl I d) u v ∨ (u = a ∧ v = b) ∨ (u = b ∧ v = a) := by
        intro u v ⟨w', hw'⟩
        rcases hw' with h | ⟨hE', hw'', _, _⟩
        · exact Or.inl ⟨w', h⟩
        · right
          have hww : w' = w := by omega
          subst hww
          obtain ⟨i, hi⟩ := E_row hE
          obtain ⟨j, hj⟩ := E_row hE'
          rcases htf _ hj _ hi rfl with h | ⟨h1, h2⟩
          · left
            have h1 : u = a := congrArg (fun x : IRow => x.1.1) h
            have h2 : v = b := congrArg (fun x : IRow => x.1.2.1) h
            exact ⟨h1, h2⟩
          · right
            exact ⟨h1, h2⟩
      rcases reach_add_edge hadd hr with h | ⟨h1, h2⟩ | ⟨h1, h2⟩
      · exact ih p q h hp hq hne hds hmem
      · exact hnc ⟨p, q, hp, hq, reach_symm hs h1, h2, hds, hmem⟩
      · exact hnc ⟨q, p, hq, hp, h2, reach_symm hs h1, hds.symm, hds ▸ hmem⟩
    · have hsame : ∀ u v, adjOf (lvl I (d + 1)) u v → adjOf (lvl I d) u v := by
        intro u v ⟨w', hw'⟩
        rcases hw' with h | h
        · exact ⟨w', h⟩
        · exact absurd ⟨u, v, w', h⟩ hnew
      exact ih p q (reach_mono hsame hr) hp hq hne hds hmem

/-- K1: with pairwise distinct probabilities no Kruskal cluster holds two records of one
duplicate-free dataset. -/
theorem ks_dupfree (I : Inst) (htf : TieFree I) {p q : Nat} (hr : Reach (adjOf (KS I)) p q)
    (hp : p < I.n) (hq : q < I.n) (hne : p ≠ q) (hds : I.ds p = I.ds q)
    (hmem : I.ds p ∈ I.dupFree) : False :=
  lvl_dupfree I htf _ p q hr hp hq hne hds hmem

/-! ## The invariant: groups lie inside Kruskal clusters -/

/-- Every representative group lies inside one Kruskal cluster. -/
def Sub (I : Inst) (rep : Reps) : Prop :=
  ∀ u v, u < I.n → v < I.n → repOf rep u = repOf rep v → Reach (adjOf (KS I)) u v

theorem sub_initial (I : Inst) : Sub I (initialReps I) := by
  intro u v hu hv h
  rw [repOf_initial I u hu, repOf_initial I v hv] at h
  subst h
  exact Reach.refl _

/-- Two groups joined by an accepted Kruskal edge do not clash: by `Sub` both lie in the one Kruskal cluster of the
edge, which K1 keeps duplicate-free. -/
theorem no_conflict_of_ks (I : Inst) (htf : TieFree I) (rep : Reps) (hsub : Sub I rep)
    {u u' : Nat} (hadj : adjOf (KS I) u u') (hne : repOf rep u ≠ repOf rep u') :
    conflict I rep (repOf rep u) (repOf rep u') = false := by
  cases hc : conflict I rep (repOf rep u) (repOf rep u') with
  | false => rfl
  | true =>
    exfalso
    obtain ⟨w, hw⟩ := hadj
    obtain ⟨_, hu, hu'⟩ := KS_E hw
    obtain ⟨d, hd, c1, c2⟩ := (conflict_iff I rep _ _).mp hc
    obtain ⟨p1, hp1, hr1, hd1⟩ := (containsFlag_iff I rep _ _).mp c1
    obtain ⟨p2, hp2, hr2, hd2⟩ := (containsFlag_iff I rep _ _).mp c2
    have r1 := hsub p1 u hp1 hu hr1
    have r2 := hsub u' p2 hu' hp2 hr2.symm
    have r := reach_trans (Reach.tail r1 ⟨w, hw⟩) r2
    refine ks_dupfree I htf r hp1 hp2 ?_ (hd1.trans hd2.symm) (hd1 ▸ hd)
    intro h
    subst h
    exact hne (hr1.symm.trans hr2)

/-- An accepted Kruskal edge between two groups is a candidate row of the pass (in the given orientation). -/
theorem ks_row_cand (I : Inst) (htf : TieFree I) (rep : Reps) (hsub : Sub I rep)
    {u u' w : Nat} (hw : KS I u u' w) (hne : repOf rep u ≠ repOf rep u') :
    ∃ y ∈ cands I rep, node y = u ∧ nbr y = u' ∧ prob y = w := by
  obtain ⟨j, hj⟩ := E_row (KS_E hw)
  obtain ⟨_, hu, hu'⟩ := KS_E hw
  refine ⟨((u, u', w), j), (mem_cands I rep _).mpr ⟨hj, (isCand_iff I rep _).mpr ?_⟩, rfl, rfl, rfl⟩
  exact ⟨hu, hu', hne, no_conflict_of_ks I htf rep hsub ⟨w, hw⟩ hne⟩

/-- The inductive step of `Sub` for one row: a row accepted by the pass joins two records of one Kruskal cluster.
Otherwise K2 gives two clashing records reached through heavier Kruskal edges; the path that leaves its group does
so by a candidate row (`ks_row_cand`) heavier than `x` in a window of `x`, against rank 1. -/
theorem accepted_same (I : Inst) (oL oR : Oracle) (k : Nat) (rep : Reps) (htf : TieFree I)
    (hsub : Sub I rep) (x : IRow) (hx : x ∈ accepted I oL oR k rep) :
    Reach (adjOf (KS I)) (node x) (nbr x) := by
  obtain ⟨hc, hrl, hrr⟩ := (mem_accepted I oL oR k rep x).mp hx
  obtain ⟨hxr, hxc⟩ := (mem_cands I rep x).mp hc
  obtain ⟨hn1, hn2, hrne, hconf⟩ := (isCand_iff I rep x).mp hxc
  apply Classical.byContradiction
  intro hnot
  have hE : E I (node x) (nbr x) (prob x) := ⟨mem_indexFrom_fst _ _ _ hxr, hn1, hn2⟩
  obtain ⟨p, q, hp, hq, r1, r2, hds, hmem⟩ := ks_clash I hE hnot
  by_cases h1 : repOf rep p = repOf rep (node x)
  · by_cases h2 : repOf rep q = repOf rep (nbr x)
    · -- the two groups clash: the row is not a candidate
      rw [← h1, ← h2, conflict_of_mem I rep hp hq hds hmem] at hconf
      cases hconf
    · -- the path from `nbr x` to `q` leaves the group of `nbr x` through a heavier edge
      obtain ⟨u, u', ⟨w', hw', hks⟩, hu, hu'⟩ :=
        reach_cross (fun z => repOf rep z = repOf rep (nbr x)) r2 rfl h2
      obtain ⟨y, hy, hy1, hy2, hy3⟩ := ks_row_cand I htf rep hsub (KS_symm hks)
        (fun h => hu' (h.trans hu))
      have hg : repOf rep (nbr y) = repOf rep (nbr x) := by
        rw [hy2]
        exact hu
      have := rank1_le hrr hy hg
      omega
  · obtain ⟨u, u', ⟨w', hw', hks⟩, hu, hu'⟩ :=
      reach_cross (fun z => repOf rep z = repOf rep (node x)) r1 rfl h1
    obtain ⟨y, hy, hy1, hy2, hy3⟩ := ks_row_cand I htf rep hsub hks
      (fun h => hu' (h.symm.trans hu))
    have hg : repOf rep (node y) = repOf rep (node x) := by
      rw [hy1]
      exact hu
    have := rank1_le hrl hy hg
    omega

theorem sub_step (I : Inst) (oL oR : Oracle) (htf : TieFree I) (k : Nat) (rep : Reps)
    (hsub : Sub I rep) : Sub I (step I oL oR k rep) := by
  -- every record has a witness in its Kruskal cluster that carried its new label before
  have wit : ∀ u, u < I.n → ∃ u', u' < I.n ∧ repOf rep u' = repOf (step I oL oR k rep) u ∧
      Reach (adjOf (KS I)) u u' := by
    intro u hu
    rw [repOf_step I oL oR k rep u hu]
    rcases newRep_cases rep (accepted I oL oR k rep) u with h | ⟨x, hx, hxn, hxe⟩
    · exact ⟨u, hu, h.symm, Reach.refl _⟩
    · have hr := accepted_same I oL oR k rep htf hsub x hx
      obtain ⟨_, hn2, _, _⟩ := (isCand_iff I rep x).mp (isCand_of_accepted hx)
      rw [hxn] at hr
      exact ⟨nbr x, hn2, hxe.symm, hr⟩
  intro u v hu hv h
  obtain ⟨u', hu', hue, hur⟩ := wit u hu
  obtain ⟨v', hv', hve, hvr⟩ := wit v hv
  have := hsub u' v' hu' hv' (by rw [hue, hve, h])
  exact reach_trans (reach_trans hur this) (reach_symm (adjKS_symm I) hvr)

theorem run_sub (I : Inst) (oL oR : Oracle) (htf : TieFree I) : Sub I (run I oL oR).rep :=
  loop_inv I oL oR (Sub I) (fun k rep h => sub_step I oL oR htf k rep h) _ _ _ (sub_initial I)

/-! ## The exit state -/

theorem same_rep_of_ks (I : Inst) (htf : TieFree I) (rep : Reps) (hsub : Sub I rep)
    (hnc : cands I rep = []) {u v : Nat} (hr : Reach (adjOf (KS I)) u v) :
    repOf rep u = repOf rep v := by
  induction hr with
  | refl => rfl
  | tail hij hjk ih =>
    rename_i j k'
    rw [ih]
    apply Classical.byContradiction
    intro hne
    obtain ⟨w, hw⟩ := hjk
    obtain ⟨y, hy, _⟩ := ks_row_cand I htf rep hsub hw hne
    rw [hnc] at hy
    cases hy

theorem connected_of_sub (I : Inst) (htf : TieFree I) (rep : Reps) (hsub : Sub I rep)
    (hnc : cands I rep = []) : Connected I rep := by
  have walk : ∀ u v, Reach (adjOf (KS I)) u v →
      Reach (fun a b => adjB I rep a b = true) u v := by
    intro u v hr
    induction hr with
    | refl => exact Reach.refl _
    | tail hij hjk ih =>
      rename_i j k'
      refine Reach.tail ih ?_
      have hsame := same_rep_of_ks I htf rep hsub hnc (reach_single hjk)
      obtain ⟨w, hw⟩ := hjk
      obtain ⟨_, hj, hk'⟩ := KS_E hw
      obtain ⟨i, hi⟩ := E_row (KS_E hw)
      exact (adjB_of_row I rep ((j, k', w), i) hi hj hk' hsame).1
  intro u v hu hv huv
  exact walk u v (hsub u v hu hv huv)

/-- The returned partition of a tie-free input is the partition into constrained Kruskal
clusters. -/
theorem run_eq_kruskal (I : Inst) (oL oR : Oracle) (htf : TieFree I) (u v : Nat) (hu : u < I.n)
    (hv : v < I.n) :
    repOf (run I oL oR).rep u = repOf (run I oL oR).rep v ↔ Reach (adjOf (KS I)) u v :=
  ⟨run_sub I oL oR htf u v hu hv,
    same_rep_of_ks I htf _ (run_sub I oL oR htf) (run_no_cands I oL oR htf)⟩

/-- On a tie-free input the returned partition does not depend on the oracles. -/
theorem partition_oracle_independent (I : Inst) (oL oR oL' oR' : Oracle) (htf : TieFree I)
    (u v : Nat) (hu : u < I.n) (hv : v < I.n) :
    repOf (run I oL oR).rep u = repOf (run I oL oR).rep v ↔
      repOf (run I oL' oR').rep u = repOf (run I oL' oR').rep v :=
  (run_eq_kruskal I oL oR htf u v hu hv).trans (run_eq_kruskal I oL' oR' htf u v hu hv).symm

/-- With pairwise distinct probabilities every returned cluster is connected through kept
edges inside the cluster, for every pair of tie-break oracles. -/
theorem connected_tie_free (I : Inst) (oL oR : Oracle) (htf : TieFree I) :
    Connected I (run I oL oR).rep :=
  connected_of_sub I htf _ (run_sub I oL oR htf) (run_no_cands I oL oR htf)

end SplinkVerif.Lemmas.O2O
