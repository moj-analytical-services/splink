import SplinkVerif.Model.MultiThreshold
import SplinkVerif.Lemmas.CC
import SplinkVerif.Lemmas.Rel
/-!
# The threshold loop of `Model/MultiThreshold.lean` keeps a good clustering

`Good n E cc`: one row per node, `(i, representative of i in E)`; it is the invariant of `loop` (`next_good`: a pass
from `tPrev` up to `tNew` keeps the rows of stable clusters, which are rows at `tNew` already, and re-clusters the other
nodes on the edges among them, which is all that reachability from them uses).  Two good clusterings of one graph are
permutations of each other (`good_perm`), `multi` yields good clusterings (`multi_good`) and `stats` does not see row
order (`stats_perm`).  The thresholds are sorted by insertion.  `C11Sql.IsClustering`, of which the statements of
`Properties/C11Sql.lean` speak, is defined here because `next_isClustering` and `Lemmas/MultiSql.lean` need it first.
-/
namespace SplinkVerif.C11Sql

/-- A clustering of the nodes `0..n-1`: every node exactly once, cluster ids are nodes. -/
def IsClustering (n : Nat) (cc : List (Nat × Nat)) : Prop :=
  (cc.map (·.1)).Perm (List.range n) ∧ ∀ r ∈ cc, r.2 < n

end SplinkVerif.C11Sql

namespace SplinkVerif.Lemmas.MT
open SplinkVerif SplinkVerif.CC SplinkVerif.MultiThreshold SplinkVerif.Lemmas

variable {α : Type}

/-! ## Sorting -/

theorem sortAsc_perm (ge : α → α → Bool) (l : List α) : (sortAsc ge l).Perm l :=
  Lists.sort_perm (before := fun x y => ge y x = true) (ins := insertSorted ge) (fun _ => rfl) (fun _ _ _ => rfl) l

/-- `l` is ascending and every element is `ge a`. -/
def AscFrom (ge : α → α → Bool) : α → List α → Prop
  | _, [] => True
  | a, b :: l => ge b a = true ∧ AscFrom ge b l

def Sorted (ge : α → α → Bool) : List α → Prop
  | [] => True
  | a :: l => AscFrom ge a l

theorem sorted_cons {ge : α → α → Bool} {a : α} {l : List α} : Sorted ge (a :: l) ↔ AscFrom ge a l := Iff.rfl

theorem ascFrom_insert (ge : α → α → Bool) (htotal : ∀ a b, ge a b = true ∨ ge b a = true)
    (x : α) (l : List α) (a : α) (h : AscFrom ge a l) (hx : ge x a = true) :
    AscFrom ge a (insertSorted ge x l) := by
  induction l generalizing a with
  | nil => exact ⟨hx, trivial⟩
  | cons y ys ih =>
    unfold insertSorted
    by_cases hyx : ge y x = true
    · rw [if_pos hyx]
      exact ⟨hx, hyx, h.2⟩
    · rw [if_neg hyx]
      exact ⟨h.1, ih y h.2 ((htotal x y).resolve_right hyx)⟩

theorem sorted_sortAsc (ge : α → α → Bool) (htotal : ∀ a b, ge a b = true ∨ ge b a = true)
    (l : List α) : Sorted ge (sortAsc ge l) := by
  induction l with
  | nil => exact trivial
  | cons x l ih =>
    show Sorted ge (insertSorted ge x (sortAsc ge l))
    cases hl : sortAsc ge l with
    | nil => exact trivial
    | cons y ys =>
      rw [hl] at ih
      unfold insertSorted
      by_cases hyx : ge y x = true
      · rw [if_pos hyx]
        exact sorted_cons.2 ⟨hyx, sorted_cons.1 ih⟩
      · rw [if_neg hyx]
        exact sorted_cons.2 (ascFrom_insert ge htotal x ys y (sorted_cons.1 ih) ((htotal x y).resolve_right hyx))

/-! ## Thresholds of `multi` -/

theorem loop_map_fst (ge : α → α → Bool) (one : α) (n : Nat) (edges : List (PEdge α))
    (cc : Clustering) (tPrev : α) (ts : List α) :
    (loop ge one n edges cc tPrev ts).map (·.1) = ts := by
  induction ts generalizing cc tPrev with
  | nil => rfl
  | cons t ts ih =>
    simp only [MultiThreshold.loop, List.map_cons]
    rw [ih]

theorem multi_map_fst (ge : α → α → Bool) (one : α) (n : Nat) (edges : List (PEdge α))
    (ts : List α) : (multi ge one n edges ts).map (·.1) = sortAsc ge ts := by
  unfold multi
  cases sortAsc ge ts with
  | nil => rfl
  | cons t0 rest =>
    simp only [List.map_cons]
    rw [loop_map_fst]

/-! ## Thresholded edges -/

theorem edgesInPlay_lt (ip : Nat → Bool) (n : Nat) (edges : List (PEdge α))
    (hE : ∀ e ∈ edges, e.1 < n ∧ e.2.1 < n) :
    ∀ e ∈ edgesInPlay ip edges, e.1 < n ∧ e.2.1 < n :=
  fun e he => hE e (List.mem_filter.mp he).1

/-- Adjacency in one thresholded graph from adjacency in another: it suffices that the edges between
the two nodes carry over. -/
theorem adj_thresholdEdges_imp {ge : α → α → Bool} {t t' : α} {edges edges' : List (PEdge α)}
    {n a b : Nat}
    (h : ∀ x y p, (x, y, p) ∈ edges → ge p t = true → (x = a ∧ y = b ∨ x = b ∧ y = a) →
      (x, y, p) ∈ edges' ∧ ge p t' = true)
    (hab : Adj n (thresholdEdges ge (some t) edges) a b) :
    Adj n (thresholdEdges ge (some t') edges') a b := by
  have key : ∀ x y, (x = a ∧ y = b ∨ x = b ∧ y = a) → (x, y) ∈ thresholdEdges ge (some t) edges →
      (x, y) ∈ thresholdEdges ge (some t') edges' := by
    intro x y hxy h'
    obtain ⟨p, hm, hg⟩ := (mem_thresholdEdges ge _ edges x y).mp h'
    obtain ⟨hm', hg'⟩ := h x y p hm (hg t rfl) hxy
    exact (mem_thresholdEdges ge _ edges' x y).mpr ⟨p, hm', fun _ ht => Option.some.inj ht ▸ hg'⟩
  exact ⟨hab.1, hab.2.1, hab.2.2.imp (key a b (Or.inl ⟨rfl, rfl⟩)) (key b a (Or.inr ⟨rfl, rfl⟩))⟩

/-! ## `Good` clusterings -/

/-- One row per node, and every row is `(i, representative of i in E)`. -/
def Good (n : Nat) (E : List Edge) (cc : Clustering) : Prop :=
  (cc.map (·.1)).Perm (List.range n) ∧ ∀ r ∈ cc, r.2 = (run n E).rep r.1

theorem good_cluster (n : Nat) (E : List Edge) (hE : ∀ e ∈ E, e.1 < n ∧ e.2 < n) :
    Good n E (cluster n E) :=
  ⟨cluster_nodes_perm n E hE, fun r hr => (mem_cluster n E hE r.1 r.2 hr).2⟩

theorem good_perm {n : Nat} {E : List Edge} {cc cc' : Clustering} (h : Good n E cc)
    (h' : Good n E cc') : cc.Perm cc' := by
  have e : ∀ {cc : Clustering}, Good n E cc →
      cc = (cc.map (·.1)).map fun i => (i, (run n E).rep i) := by
    intro cc h
    rw [List.map_map]
    exact (List.map_id cc).symm.trans (List.map_congr_left fun r hr => Prod.ext rfl (h.2 r hr))
  rw [e h, e h']
  exact (h.1.trans h'.1.symm).map _

theorem good_row {n : Nat} {E : List Edge} {cc : Clustering} (h : Good n E cc) {i c : Nat}
    (hm : (i, c) ∈ cc) : i < n ∧ c = (run n E).rep i :=
  ⟨List.mem_range.mp (h.1.mem_iff.mp (List.mem_map.mpr ⟨(i, c), hm, rfl⟩)), h.2 (i, c) hm⟩

theorem good_mem {n : Nat} {E : List Edge} {cc : Clustering} (h : Good n E cc) {i : Nat}
    (hi : i < n) : (i, (run n E).rep i) ∈ cc := by
  obtain ⟨r, hr, rfl⟩ := List.mem_map.mp (h.1.mem_iff.mpr (List.mem_range.mpr hi))
  rw [← h.2 r hr]
  exact hr

theorem good_adj_closed {n : Nat} {E : List Edge} {cc : Clustering} (hE : ∀ e ∈ E, e.1 < n ∧ e.2 < n)
    (h : Good n E cc) {a b c : Nat} (hm : (a, c) ∈ cc) (hab : Adj n E a b) : (b, c) ∈ cc := by
  obtain ⟨ha, hc⟩ := good_row h hm
  obtain ⟨hb, hrep⟩ := run_rep_reach n E hE a b ha (reach_single hab)
  rw [hc, hrep]
  exact good_mem h hb

theorem cluster_isClustering (n : Nat) (E : List Edge) (hE : ∀ e ∈ E, e.1 < n ∧ e.2 < n) :
    C11Sql.IsClustering n (cluster n E) := by
  refine ⟨cluster_nodes_perm n E hE, ?_⟩
  rintro ⟨i, c⟩ hic
  obtain ⟨hi, rfl⟩ := mem_cluster n E hE i c hic
  exact Nat.lt_of_le_of_lt ((inv_run n E hE).A i hi) hi

theorem ccAt_true (ge : α → α → Bool) (n : Nat) (edges : List (PEdge α)) (t : α) :
    ccAt ge n (fun _ => true) edges t = cluster n (thresholdEdges ge (some t) edges) :=
  List.filter_eq_self.mpr (fun _ _ => rfl)

/-! ## Stability -/

theorem mem_clusterEdgeProbs (ge : α → α → Bool) (cc : Clustering) (edges : List (PEdge α))
    (tPrev : α) (c : Nat) (p : α) :
    p ∈ clusterEdgeProbs ge cc edges tPrev c ↔
      ∃ i a b, (i, c) ∈ cc ∧ (a, b, p) ∈ edges ∧ ge p tPrev = true ∧ (a = i ∨ b = i) := by
  have hmem : ∀ x, ((cc.filter fun r => r.2 == c).map (·.1)).contains x = true ↔ (x, c) ∈ cc := by
    intro x
    rw [List.contains_iff_mem, List.mem_map]
    constructor
    · rintro ⟨⟨i, c'⟩, hr, rfl⟩
      obtain ⟨h1, h2⟩ := List.mem_filter.mp hr
      cases beq_iff_eq.mp h2
      exact h1
    · intro h
      exact ⟨(x, c), List.mem_filter.mpr ⟨h, beq_self_eq_true c⟩, rfl⟩
  unfold clusterEdgeProbs
  simp only [List.mem_append, List.mem_map, List.mem_filter, hmem]
  constructor
  · rintro (⟨⟨a, b, _⟩, ⟨⟨he, hk⟩, hm⟩, rfl⟩ | ⟨⟨a, b, _⟩, ⟨⟨he, hk⟩, hm⟩, rfl⟩)
    · exact ⟨a, a, b, hm, he, hk, Or.inl rfl⟩
    · exact ⟨b, a, b, hm, he, hk, Or.inr rfl⟩
  · rintro ⟨i, a, b, hic, he, hk, rfl | rfl⟩
    · exact Or.inl ⟨(a, b, p), ⟨⟨he, hk⟩, hic⟩, rfl⟩
    · exact Or.inr ⟨(a, b, p), ⟨⟨he, hk⟩, hic⟩, rfl⟩

/-- The `HAVING` clause without the `coalesce`: an empty group compares `one`. -/
theorem isStable_iff (ge : α → α → Bool) (one : α) (cc : Clustering) (edges : List (PEdge α))
    (tPrev tNew : α) (c : Nat) :
    isStable ge one cc edges tPrev tNew c = true ↔
      (clusterEdgeProbs ge cc edges tPrev c = [] → ge one tNew = true) ∧
        ∀ p ∈ clusterEdgeProbs ge cc edges tPrev c, ge p tNew = true := by
  unfold isStable
  cases clusterEdgeProbs ge cc edges tPrev c with
  | nil => exact ⟨fun h => ⟨fun _ => h, fun _ hp => nomatch hp⟩, fun h => h.1 rfl⟩
  | cons a l => exact ⟨fun h => ⟨nofun, List.all_eq_true.mp h⟩, fun h => List.all_eq_true.mpr h.2⟩

theorem stable_edge (ge : α → α → Bool) (one : α) (cc : Clustering) (edges : List (PEdge α))
    (tPrev tNew : α) (c i l r : Nat) (p : α)
    (h : isStable ge one cc edges tPrev tNew c = true) (hic : (i, c) ∈ cc)
    (hm : (l, r, p) ∈ edges) (hg : ge p tPrev = true) (hi : l = i ∨ r = i) : ge p tNew = true :=
  ((isStable_iff ge one cc edges tPrev tNew c).mp h).2 p
    ((mem_clusterEdgeProbs ge cc edges tPrev c p).mpr ⟨i, l, r, hic, hm, hg, hi⟩)

theorem stableNodes_eq (ge : α → α → Bool) (one : α) (n : Nat) (edges : List (PEdge α))
    (cc : Clustering) (tPrev tNew : α) :
    stableNodes ge one n edges cc tPrev tNew =
      cc.filter fun r => isStable ge one cc edges tPrev tNew r.2 := by
  unfold stableNodes
  simp only [Tab.get_build]

theorem inPlay_filter (n : Nat) {cc : Clustering} (hnd : (cc.map (·.1)).Nodup)
    (q : Nat × Nat → Bool) {r : Nat × Nat} (hr : r ∈ cc) :
    (inPlay n (cc.filter q)).get r.1 = !q r := by
  unfold inPlay
  rw [Tab.get_build]
  congr 1
  apply Bool.eq_iff_iff.mpr
  rw [List.any_eq_true]
  constructor
  · rintro ⟨r', hr', heq⟩
    obtain ⟨hm', hq'⟩ := List.mem_filter.mp hr'
    rw [← List.inj_on_of_nodup_map hnd hm' hr (beq_iff_eq.mp heq)]
    exact hq'
  · intro hq
    exact ⟨r, List.mem_filter.mpr ⟨hr, hq⟩, beq_self_eq_true _⟩

/-! ## One pass of the loop -/

section Step
variable (ge : α → α → Bool) (one : α) (n : Nat) (edges : List (PEdge α)) (cc : Clustering)
  (tPrev tNew : α)

theorem next_eq :
    next ge one n edges cc tPrev tNew =
      stableNodes ge one n edges cc tPrev tNew ++
        (cluster n (thresholdEdges ge (some tNew) (edgesInPlay
          (inPlay n (stableNodes ge one n edges cc tPrev tNew)).get edges))).filter
          fun r => (inPlay n (stableNodes ge one n edges cc tPrev tNew)).get r.1 := rfl

theorem next_nodes_perm (hE : ∀ e ∈ edges, e.1 < n ∧ e.2.1 < n)
    (hcc : (cc.map (·.1)).Perm (List.range n)) :
    ((next ge one n edges cc tPrev tNew).map (·.1)).Perm (List.range n) := by
  have hnd : (cc.map (·.1)).Nodup := hcc.nodup_iff.mpr List.nodup_range
  rw [next_eq, stableNodes_eq]
  -- With `ip` the in-play flag of a node, the stable rows are the rows of `cc` with `!ip` (`inPlay_filter`) and the
  -- re-clustered rows are those of a clustering of all nodes with `ip`: on the nodes, the two filters split `range n`.
  -- `e1` and `e2` write both filters as `_ ∘ (·.1)`, the form `List.filter_map` moves under the `map`.
  generalize hip :
    (inPlay n (cc.filter fun r => isStable ge one cc edges tPrev tNew r.2)).get = ip
  have e1 : (cc.filter fun r => isStable ge one cc edges tPrev tNew r.2) =
      cc.filter ((fun i => !ip i) ∘ (·.1)) := by
    apply List.filter_congr
    intro r hr
    show _ = !ip r.1
    rw [← hip, inPlay_filter n hnd _ hr, Bool.not_not]
  have e2 : ∀ l : Clustering, (l.filter fun r => ip r.1) = l.filter (ip ∘ (·.1)) := fun _ => rfl
  rw [e1, e2, List.map_append, ← List.filter_map, ← List.filter_map]
  have p2 := (cluster_nodes_perm n _ (thresholdEdges_lt ge (some tNew) n _
    (edgesInPlay_lt ip n edges hE))).filter ip
  exact ((hcc.filter fun i => !ip i).append p2).trans
    (List.perm_append_comm.trans (List.filter_append_perm ip (List.range n)))

theorem next_isClustering (hE : ∀ e ∈ edges, e.1 < n ∧ e.2.1 < n) (hcc : C11Sql.IsClustering n cc) :
    C11Sql.IsClustering n (next ge one n edges cc tPrev tNew) := by
  refine ⟨next_nodes_perm ge one n edges cc tPrev tNew hE hcc.1, ?_⟩
  rw [next_eq, stableNodes_eq]
  intro r hr
  rcases List.mem_append.mp hr with hr | hr
  · exact hcc.2 r (List.mem_filter.mp hr).1
  · exact (cluster_isClustering n _ (thresholdEdges_lt ge (some tNew) n _ (edgesInPlay_lt _ n edges hE))).2 r
      (List.mem_filter.mp hr).1

variable (htrans : ∀ a b c, ge a b = true → ge b c = true → ge a c = true)
  (hle : ge tNew tPrev = true)
  (hE : ∀ e ∈ edges, e.1 < n ∧ e.2.1 < n)
  (hG : Good n (thresholdEdges ge (some tPrev) edges) cc)

include htrans hle in
theorem adj_new_prev (a b : Nat) (h : Adj n (thresholdEdges ge (some tNew) edges) a b) :
    Adj n (thresholdEdges ge (some tPrev) edges) a b :=
  adj_thresholdEdges_imp (fun _ _ _ hm hg _ => ⟨hm, htrans _ _ _ hg hle⟩) h

include htrans hle hE hG in
/-- A row of a stable cluster is a row of the clustering at the new threshold: inside the cluster,
reachability at the old threshold survives at the new one. -/
theorem stable_row (i c : Nat) (hm : (i, c) ∈ cc)
    (hs : isStable ge one cc edges tPrev tNew c = true) :
    c = (run n (thresholdEdges ge (some tNew) edges)).rep i := by
  have hEp := thresholdEdges_lt ge (some tPrev) n edges hE
  obtain ⟨hi, hc⟩ := good_row hG hm
  rw [hc]
  apply rep_eq_of_reach_iff n _ _ hEp (thresholdEdges_lt ge (some tNew) n edges hE) i hi
  intro j
  refine ⟨fun hr => (reach_map_of_closed (P := fun a => (a, c) ∈ cc) id ?_ hm hr).2,
    reach_mono (adj_new_prev ge n edges tPrev tNew htrans hle)⟩
  intro a b ha hab
  refine ⟨good_adj_closed hEp hG ha hab, adj_thresholdEdges_imp ?_ hab⟩
  intro x y p hp hg hxy
  refine ⟨hp, stable_edge ge one cc edges tPrev tNew c a x y p hs ha hp hg ?_⟩
  exact hxy.imp (·.1) (·.2)

include htrans hle hE hG in
/-- For a node in play the marginal clustering finds the representative at the new threshold: from
such a node, reachability at the new threshold only uses edges in play. -/
theorem inPlay_rep (ip : Nat → Bool)
    (hip : ∀ r ∈ cc, ip r.1 = !isStable ge one cc edges tPrev tNew r.2) (i c : Nat)
    (hm : (i, c) ∈ cc) (hs : isStable ge one cc edges tPrev tNew c = false) :
    (run n (thresholdEdges ge (some tNew) (edgesInPlay ip edges))).rep i =
      (run n (thresholdEdges ge (some tNew) edges)).rep i := by
  have hEp := thresholdEdges_lt ge (some tPrev) n edges hE
  apply rep_eq_of_reach_iff n _ _
    (thresholdEdges_lt ge (some tNew) n _ (edgesInPlay_lt ip n edges hE))
    (thresholdEdges_lt ge (some tNew) n edges hE) i (good_row hG hm).1
  intro j
  refine ⟨reach_mono fun a b =>
      adj_thresholdEdges_imp fun _ _ _ hp hg _ => ⟨(List.mem_filter.mp hp).1, hg⟩,
    fun hr => (reach_map_of_closed (P := fun a => (a, c) ∈ cc) id ?_ hm hr).2⟩
  intro a b ha hab
  have hb := good_adj_closed hEp hG ha (adj_new_prev ge n edges tPrev tNew htrans hle a b hab)
  have hipa : ip a = true := by rw [hip _ ha, hs]; rfl
  have hipb : ip b = true := by rw [hip _ hb, hs]; rfl
  refine ⟨hb, adj_thresholdEdges_imp ?_ hab⟩
  intro x y p hp hg hxy
  refine ⟨List.mem_filter.mpr ⟨hp, ?_⟩, hg⟩
  rcases hxy with ⟨rfl, rfl⟩ | ⟨rfl, rfl⟩
  · rw [hipa, hipb]; rfl
  · rw [hipa, hipb]; rfl

include htrans hle hE hG in
theorem next_good :
    Good n (thresholdEdges ge (some tNew) edges) (next ge one n edges cc tPrev tNew) := by
  refine ⟨next_nodes_perm ge one n edges cc tPrev tNew hE hG.1, ?_⟩
  have hnd : (cc.map (·.1)).Nodup := hG.1.nodup_iff.mpr List.nodup_range
  rw [next_eq, stableNodes_eq]
  intro r hr
  rcases List.mem_append.mp hr with hr | hr
  · obtain ⟨hrm, hrs⟩ := List.mem_filter.mp hr
    exact stable_row ge one n edges cc tPrev tNew htrans hle hE hG r.1 r.2 hrm hrs
  · obtain ⟨hrm, hrp⟩ := List.mem_filter.mp hr
    have hip := fun r hr => inPlay_filter n hnd
      (fun r => isStable ge one cc edges tPrev tNew r.2) (r := r) hr
    obtain ⟨hrn, hrc⟩ := mem_cluster n _ (thresholdEdges_lt ge (some tNew) n _
      (edgesInPlay_lt _ n edges hE)) r.1 r.2 hrm
    have hm := good_mem hG hrn
    have hs : isStable ge one cc edges tPrev tNew _ = false :=
      (Bool.not_eq_true' _).mp ((hip _ hm).symm.trans hrp)
    rw [hrc]
    exact inPlay_rep ge one n edges cc tPrev tNew htrans hle hE hG _ hip r.1 _ hm hs

end Step

/-! ## The loop -/

theorem loop_good (ge : α → α → Bool) (one : α) (n : Nat) (edges : List (PEdge α))
    (htrans : ∀ a b c, ge a b = true → ge b c = true → ge a c = true)
    (hE : ∀ e ∈ edges, e.1 < n ∧ e.2.1 < n)
    (cc : Clustering) (tPrev : α) (ts : List α)
    (hG : Good n (thresholdEdges ge (some tPrev) edges) cc) (hs : AscFrom ge tPrev ts) :
    ∀ t cc', (t, cc') ∈ loop ge one n edges cc tPrev ts →
      Good n (thresholdEdges ge (some t) edges) cc' := by
  induction ts generalizing cc tPrev with
  | nil => intro t cc' h; cases h
  | cons t0 ts ih =>
    intro t cc' h
    have hG' := next_good ge one n edges cc tPrev t0 htrans hs.1 hE hG
    rcases List.mem_cons.mp h with h | h
    · cases h
      exact hG'
    · exact ih _ _ hG' hs.2 t cc' h

theorem multi_good (ge : α → α → Bool) (one : α) (n : Nat) (edges : List (PEdge α))
    (ts : List α)
    (htrans : ∀ a b c, ge a b = true → ge b c = true → ge a c = true)
    (htotal : ∀ a b, ge a b = true ∨ ge b a = true)
    (hE : ∀ e ∈ edges, e.1 < n ∧ e.2.1 < n) :
    ∀ t cc, (t, cc) ∈ multi ge one n edges ts →
      Good n (thresholdEdges ge (some t) edges) cc := by
  intro t cc h
  have hsorted := sorted_sortAsc ge htotal ts
  unfold multi at h
  generalize sortAsc ge ts = s at h hsorted
  cases s with
  | nil => cases h
  | cons t0 rest =>
    have hG0 : Good n (thresholdEdges ge (some t0) edges) (ccAt ge n (fun _ => true) edges t0) := by
      rw [ccAt_true]
      exact good_cluster n _ (thresholdEdges_lt ge (some t0) n edges hE)
    rcases List.mem_cons.mp h with h | h
    · cases h
      exact hG0
    · exact loop_good ge one n edges htrans hE _ t0 rest hG0 (sorted_cons.1 hsorted) t cc h

/-! ## Statistics -/

theorem clusterSizes_perm {cc cc' : Clustering} (p : cc.Perm cc') :
    (clusterSizes cc).Perm (clusterSizes cc') := by
  unfold clusterSizes
  have hf : (fun c => (cc.filter fun r => r.2 == c).length) =
      (fun c => (cc'.filter fun r => r.2 == c).length) :=
    funext fun c => (p.filter _).length_eq
  rw [hf]
  exact (Rel.eraseDups_perm (p.map _)).map _

theorem stats_perm {cc cc' : Clustering} (p : cc.Perm cc') : stats cc = stats cc' := by
  have hp := clusterSizes_perm p
  show Stats.mk (clusterSizes cc).length ((clusterSizes cc).foldl max 0) (clusterSizes cc).sum = _
  rw [hp.length_eq, hp.sum_nat, hp.foldl_eq' (fun x _ y _ z => Nat.max_right_comm z x y)]
  rfl

end SplinkVerif.Lemmas.MT
