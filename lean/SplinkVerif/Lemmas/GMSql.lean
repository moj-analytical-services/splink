import Mathlib.Data.List.Nodup
import Mathlib.Data.List.Perm.Basic
import Mathlib.Algebra.Order.Field.Rat
import SplinkVerif.Lemmas.Rel
import SplinkVerif.Lemmas.GraphMetrics
import SplinkVerif.Lemmas.GraphMetricsBridges
import SplinkVerif.Model.GMSql
/-!
# The regenerated SQL of `compute_graph_metrics`: encodings and the lemmas behind `Properties/C19Sql.lean`

The relational-algebra terms of `Generated/GMSql.lean` are evaluated with `Rel.eval`; the tables of
`Model/GraphMetrics.lean` are encoded as rows by the definitions of the section "Encodings".  The rest are the facts the
statement-by-statement theorems of `Properties/C19Sql.lean` are assembled from: `GROUP BY` over blocks, look-up joins
on the integer mapping, the `CASE` expressions of the metrics.  The refinement theorems there are equalities of tables,
so each `runStmts` pipeline is unfolded once (last section) into the composition of its statements' `eval`s, and the
per-statement equalities are rewritten into it.
-/
namespace SplinkVerif.C19Sql
open SplinkVerif SplinkVerif.Rel SplinkVerif.GraphMetrics

/-! ## Encodings of the input and result tables -/

/-- `df_predict` of a dedupe linker: `(unique_id_l, unique_id_r, match_probability)`; ids are ranks, probabilities
integer order keys. -/
def predictRows (edges : List (Nat × Nat × Int)) : List Row :=
  edges.map fun e => [Val.int e.1, Val.int e.2.1, Val.int e.2.2]

/-- `df_clustered`: `(cluster_id, unique_id, v)`, one row per record `0..n-1`. -/
def clusteredRows (n : Nat) (cid : Nat → Nat) : List Row :=
  (List.range n).map fun i => [Val.int (cid i), Val.int i, Val.str "x"]

/-- The edges the functional model keeps: `match_probability >= threshold` on integer order keys. -/
def kept (thr : Int) (edges : List (Nat × Nat × Int)) : List Edge :=
  GraphMetrics.truncatedEdges (fun (a b : Int) => decide (a ≥ b)) thr edges

/-- The rational number a `Frac` (an unreduced numerator/denominator pair, denominator `> 0`) stands for. -/
def fracVal (f : Frac) : Rat := (f.num : Rat) / (f.den : Rat)

def encFrac (f : Frac) : Val := Val.rat (fracVal f)

def encOptFrac : Option Frac → Val
  | none => Val.null
  | some f => encFrac f

/-- A row of `__splink__graph_metrics_nodes`: `(composite_unique_id, cluster_id, node_degree, node_centrality)`. -/
def encNode (r : NodeRow) : Row := [Val.int r.node, Val.int r.cluster, Val.int r.degree, encFrac r.centrality]

/-- A row of `__splink__graph_metrics_clusters`: `(cluster_id, n_nodes, n_edges, density, cluster_centralisation)`. -/
def encCluster (r : ClusterRow) : Row :=
  [Val.int r.cluster, Val.int r.nNodes, encFrac r.nEdges, encOptFrac r.density, encOptFrac r.centralisation]

/-- A row of `__splink__graph_metrics_edges`: `(composite_unique_id_l, composite_unique_id_r, is_bridge)`. -/
def encEdge (r : Nat × Nat × Bool) : Row := [Val.int r.1, Val.int r.2.1, Val.bool r.2.2]

/-- A row of a two-column table of naturals (`__splink__all_nodes`, `__splink__edges_with_mapped_ids`, `bridges_in`). -/
def pairRow (p : Nat × Nat) : Row := [Val.int p.1, Val.int p.2]

/-- A natural number read back from a SQL value (`0` for anything that is not an integer). -/
def valNat : Val → Nat
  | .int i => i.toNat
  | _ => 0

/-- `as_pandas_dataframe()` of `__splink__edges_with_mapped_ids`: what igraph is given. -/
def decodePairs (rows : List Row) : List (Nat × Nat) :=
  rows.map fun r => (valNat (r.getD 0 .null), valNat (r.getD 1 .null))

/-- The engine's row order of the nodes table (the order `row_number()` numbers the records in). -/
def orderVals (order : List Nat) : List Val := order.map fun (i : Nat) => Val.int (i : Int)

/-- The prediction rows that pass the threshold (`kept thr edges` is their `(l, r)` projection). -/
def keptRows (thr : Int) (edges : List (Nat × Nat × Int)) : List (Nat × Nat × Int) :=
  edges.filter fun e => decide (e.2.2 ≥ thr)

/-- An id that may be NULL (an endpoint the mapping does not know). -/
def encOptNat : Option Nat → Val
  | none => Val.null
  | some k => Val.int (k : Int)

/-- A row of `__splink__edges_with_mapped_ids` as the model has it. -/
def optPairRow (p : Option Nat × Option Nat) : Row := [encOptNat p.1, encOptNat p.2]

/-- A row of `__splink__bridges_only`: `(node_l, node_r, TRUE)`. -/
def brRow (q : Option Nat × Option Nat) : Row := [encOptNat q.1, encOptNat q.2, Val.bool true]

end SplinkVerif.C19Sql

namespace SplinkVerif.Lemmas.GMSql
open SplinkVerif SplinkVerif.Rel SplinkVerif.Lemmas.Rel SplinkVerif.GraphMetrics SplinkVerif.C19Sql

abbrev iv (i : Nat) : Val := Val.int (i : Int)

/-- Evaluate scalar expressions on concrete rows. -/
macro "ev_simp" "at" h:ident : tactic =>
  `(tactic| simp [Expr.holds, Expr.eval, List.getD_cons_zero, List.getD_cons_succ] at $h:ident)

attribute [local simp] bool_beq_true

/-- `1.0 * x / y` on numbers is the exact quotient; the three metric `CASE`s end in it. -/
theorem one_mul_div_eval {x y : Val} {p q : Rat} (hx : x.toRat? = some p) (hy : y.toRat? = some q) (hq : q ≠ 0) :
    Arith.div.eval (Arith.mul.eval (Val.rat ((1 : Rat) / 1)) x) y = Val.rat (p / q) := by
  have h1 : Arith.mul.eval (Val.rat ((1 : Rat) / 1)) x = Val.rat p := by
    simp only [Arith.eval, hx, show (Val.rat ((1 : Rat) / 1)).toRat? = some 1 from by simp [Val.toRat?], one_mul]
  rw [h1]
  exact div_eval rfl hy hq

/-! ## Naturals as SQL values -/

theorem iv_inj {a b : Nat} : iv a = iv b ↔ a = b :=
  int_natCast_inj

theorem iv_beq (a b : Nat) : (iv a == iv b) = (a == b) :=
  int_natCast_beq a b

theorem iv_eq_decide (a b : Nat) : decide ((a : Int) = (b : Int)) = (a == b) := by
  rw [Bool.eq_iff_iff, decide_eq_true_iff, beq_iff_eq, Int.ofNat_inj]

/-! ## The node statements: the join with `__splink__all_nodes` grouped by record -/

/-- The rows of `clustered_in c LEFT JOIN __splink__all_nodes n ON c.unique_id = n.node` for record `i`. -/
def joinBlock (cid : Nat → Nat) (an : List (Nat × Nat)) (i : Nat) : List Row :=
  if (an.filter fun r => r.1 == i).isEmpty then [[Val.int (cid i), Val.int i, Val.str "x", Val.null, Val.null]]
  else (an.filter fun r => r.1 == i).map fun p => [Val.int (cid i), Val.int i, Val.str "x", Val.int p.1, Val.int p.2]

theorem nodeJoin_eq (n : Nat) (cid : Nat → Nat) (an : List (Nat × Nat)) :
    joinRows true (Expr.cmp Cmp.eq (Expr.col 1) (Expr.col 3)) (clusteredRows n cid) (an.map pairRow) 2
      = (List.range n).flatMap (joinBlock cid an) := by
  refine (joinRows_left_map (List.range n) an _ pairRow _ (fun i r => r.1 == i) 2 fun i r => ?_).trans
    (List.flatMap_congr fun i _ => ?_)
  · exact (holds_eq_cols_nat (a := i) (b := r.1) rfl rfl).trans Bool.beq_comm
  · unfold joinBlock
    split <;> rfl

theorem joinBlock_ne_nil (cid : Nat → Nat) (an : List (Nat × Nat)) (i : Nat) : joinBlock cid an i ≠ [] := by
  unfold joinBlock
  split
  · exact List.cons_ne_nil _ _
  · next h => exact fun h' => h (List.isEmpty_iff.mpr (List.map_eq_nil_iff.mp h'))

theorem joinBlock_key (cid : Nat → Nat) (an : List (Nat × Nat)) (i : Nat) :
    ∀ x ∈ joinBlock cid an i, [Expr.col 1, Expr.col 0].map (·.eval x) = [iv i, iv (cid i)] := by
  intro x hx
  unfold joinBlock at hx
  split at hx
  · rw [List.mem_singleton.mp hx]
    rfl
  · obtain ⟨p, _, rfl⟩ := List.mem_map.mp hx
    rfl

/-- `COUNT(*) FILTER (WHERE n.neighbour IS NOT NULL)` on the group of record `i`. -/
theorem joinBlock_count (cid : Nat → Nat) (an : List (Nat × Nat)) (i : Nat) :
    (Agg.countIf (Expr.not (Expr.isNull (Expr.col 4)))).eval (joinBlock cid an i)
      = iv ((an.filter fun r => r.1 == i).length) := by
  unfold joinBlock
  simp only [Agg.eval]
  split
  · next h =>
    rw [List.isEmpty_iff.mp h]
    rfl
  · rw [List.filter_eq_self.mpr, List.length_map]
    intro x hx
    obtain ⟨p, _, rfl⟩ := List.mem_map.mp hx
    rfl

/-- The `node_centrality` expression. -/
theorem centrality_eval (a b : Val) (d s : Nat) :
    (Expr.case (Expr.cmp Cmp.gt (Expr.col 3) (Expr.lit (Val.int (1))))
      (Expr.arith Arith.div (Expr.arith Arith.mul (Expr.lit (Val.rat ((1 : Rat) / 1))) (Expr.col 2))
        (Expr.arith Arith.sub (Expr.col 3) (Expr.lit (Val.int (1)))))
      (Expr.toRat (Expr.lit (Val.int (0))))).eval [a, b, iv d, iv s]
      = encFrac (nodeCentrality d s) := by
  simp only [Expr.eval, List.getD_cons_succ, List.getD_cons_zero, cmp_gt_int, bool_beq_true, nodeCentrality,
    Nat.one_lt_cast, gt_iff_lt, decide_eq_true_eq]
  by_cases hs : 1 < s
  · rw [if_pos hs, if_pos hs, one_mul_div_eval (p := d) (q := (s - 1 : Nat)) rfl]
    · rfl
    · simp [Arith.eval, Val.toRat?, Nat.cast_sub hs.le]
    · exact Nat.cast_ne_zero.mpr (Nat.sub_pos_of_lt hs).ne'
  · rw [if_neg hs, if_neg hs]
    simp [encFrac, fracVal]

/-! ## The cluster statements -/

/-- One row of the `GROUP BY cluster_id` of `__splink__counts_per_cluster`, before the projection. -/
def groupRow (rows : List NodeRow) (c : Nat) : Row :=
  let ms := rows.filter fun r => r.cluster == c
  [iv c, iv ms.length, iv (sumDeg ms), iv (maxDeg ms)]

theorem clusters_group (rows : List NodeRow) :
    groupRows [Expr.col 1] [Agg.countStar, Agg.sum (Expr.col 2), Agg.max (Expr.col 2)] (rows.map encNode)
      = ((rows.map (·.cluster)).eraseDups).map (groupRow rows) := by
  rw [groupRows_map [Expr.col 1] (List.cons_ne_nil _ _) _ encNode (·.cluster) (fun c => [iv c])
    (fun a b h => iv_inj.mp (List.cons.inj h).1) (fun _ => rfl)]
  apply List.map_congr_left
  intro c hc
  -- `c` is the cluster of some row, so its group is not empty and `SUM`, `MAX` are not NULL
  obtain ⟨r, hr, hrc⟩ := List.mem_map.mp (List.mem_eraseDups.mp hc)
  have hne : (rows.filter fun r => r.cluster == c) ≠ [] :=
    List.ne_nil_of_mem (List.mem_filter.mpr ⟨hr, beq_iff_eq.mpr hrc⟩)
  have hs := aggSum_nat (enc := encNode) (e := Expr.col 2) (f := (·.degree)) (fun _ => rfl)
    (rows.filter fun r => r.cluster == c)
  have hm := maxVals_map_nat (fun r : NodeRow => r.degree) (rows.filter fun r => r.cluster == c)
  rw [if_neg hne] at hs hm
  simp only [List.map_cons, List.map_nil, hs, groupRow, List.cons_append, List.nil_append]
  simp only [Agg.eval, List.length_map, List.map_map]
  exact congrArg (fun v => [iv c, _, _, v]) hm

/-- `SUM(node_degree)/2.0`. -/
theorem nEdges_eval (s : Nat) : Arith.div.eval (iv s) (Val.rat ((2 : Rat) / 1)) = encFrac ⟨s, 2⟩ := by
  simp [Arith.eval, Val.toRat?, encFrac, fracVal]

/-- The `cluster_centralisation` expression on a grouped row. -/
theorem centralisation_eval (a : Val) (k s mx : Nat) :
    (Expr.case (Expr.cmp Cmp.gt (Expr.col 1) (Expr.lit (Val.int (2))))
      (Expr.arith Arith.div
        (Expr.arith Arith.mul (Expr.lit (Val.rat ((1 : Rat) / 1)))
          (Expr.arith Arith.sub (Expr.arith Arith.mul (Expr.col 1) (Expr.col 3)) (Expr.col 2)))
        (Expr.arith Arith.mul (Expr.arith Arith.sub (Expr.col 1) (Expr.lit (Val.int (1))))
          (Expr.arith Arith.sub (Expr.col 1) (Expr.lit (Val.int (2))))))
      (Expr.lit Val.null)).eval [a, iv k, iv s, iv mx]
      = encOptFrac (if k > 2 then some ⟨(k : Int) * (mx : Int) - (s : Int), (k - 1) * (k - 2)⟩ else none) := by
  simp only [Expr.eval, List.getD_cons_succ, List.getD_cons_zero, cmp_gt_int, bool_beq_true,
    Nat.ofNat_lt_cast, gt_iff_lt, decide_eq_true_eq]
  by_cases hk : 2 < k
  · rw [if_pos hk, if_pos hk,
      one_mul_div_eval (p := ((k * mx - s : Int) : Rat)) (q := ((k - 1) * (k - 2) : Nat)) rfl]
    · rfl
    · simp [Arith.eval, Val.toRat?, Nat.cast_sub (show 1 ≤ k by omega), Nat.cast_sub hk.le]
    · exact Nat.cast_ne_zero.mpr
        (Nat.mul_ne_zero (Nat.sub_ne_zero_of_lt (Nat.lt_of_succ_lt hk)) (Nat.sub_ne_zero_of_lt hk))
  · rw [if_neg hk, if_neg hk]
    rfl

/-- The `density` expression on a row of `__splink__counts_per_cluster`. -/
theorem density_eval (a b : Val) (k s : Nat) :
    (Expr.case (Expr.cmp Cmp.gt (Expr.col 1) (Expr.lit (Val.int (1))))
      (Expr.arith Arith.div
        (Expr.arith Arith.mul (Expr.lit (Val.rat ((1 : Rat) / 1)))
          (Expr.arith Arith.mul (Expr.col 2) (Expr.lit (Val.int (2)))))
        (Expr.arith Arith.mul (Expr.col 1) (Expr.arith Arith.sub (Expr.col 1) (Expr.lit (Val.int (1))))))
      (Expr.lit Val.null)).eval [a, iv k, encFrac ⟨s, 2⟩, b]
      = encOptFrac (if k > 1 then some ⟨(s : Int) * 2, 2 * (k * (k - 1))⟩ else none) := by
  simp only [Expr.eval, List.getD_cons_succ, List.getD_cons_zero, cmp_gt_int, bool_beq_true,
    Nat.one_lt_cast, gt_iff_lt, decide_eq_true_eq]
  by_cases hk : 1 < k
  · have hq : ((k * (k - 1) : Nat) : Rat) ≠ 0 :=
      Nat.cast_ne_zero.mpr (Nat.mul_ne_zero (Nat.ne_of_gt (Nat.zero_lt_of_lt hk)) (Nat.sub_ne_zero_of_lt hk))
    rw [if_pos hk, if_pos hk,
      one_mul_div_eval (p := fracVal ⟨s, 2⟩ * 2) (q := (k * (k - 1) : Nat)) _ _ hq]
    · simp only [encOptFrac, encFrac, fracVal, Int.cast_mul, Int.cast_natCast, Int.cast_ofNat, Nat.cast_mul 2,
        Nat.cast_ofNat]
      rw [div_mul_cancel₀ _ two_ne_zero, mul_comm (s : Rat) 2, mul_div_mul_left _ _ two_ne_zero]
    · simp [Arith.eval, Val.toRat?, encFrac]
    · simp [Arith.eval, Val.toRat?, Nat.cast_sub hk.le]
  · rw [if_neg hk, if_neg hk]
    rfl

/-- The cluster statements only aggregate integers: `SUM` / `MAX(node_degree)`. -/
theorem clusterStmts_ok (rows : List NodeRow) :
    StmtsOK (Db.set GMSql.emptyDb "__splink__graph_metrics_nodes" (rows.map encNode)) Gen.GMSql.clusterStmts := by
  have hnum : ∀ row ∈ rows.map encNode, ∃ i, (Expr.col 2).eval row = Val.int i := by
    intro row hrow
    obtain ⟨r, _, rfl⟩ := List.mem_map.mp hrow
    exact ⟨r.degree, rfl⟩
  refine ⟨⟨trivial, ?_⟩, trivial, trivial⟩
  intro a ha
  simp only [List.mem_cons, List.not_mem_nil, or_false] at ha
  rw [eval_table, set_same]
  rcases ha with rfl | rfl | rfl
  · trivial
  · intro row hrow
    obtain ⟨i, hi⟩ := hnum row hrow
    exact Or.inr (Or.inl ⟨i, hi⟩)
  · intro row hrow
    obtain ⟨i, hi⟩ := hnum row hrow
    exact Or.inr ⟨i, hi⟩

/-! ## The edge statements: look-ups in the integer mapping -/

theorem mapping_eq (order : List Nat) :
    GMSql.mapping (orderVals order) = (List.range order.length).map fun i => [iv (order.getD i 0), iv i] := by
  unfold GMSql.mapping orderVals
  rw [List.length_map]
  apply List.map_congr_left
  intro i hi
  have hi' : i < order.length := List.mem_range.mp hi
  simp [List.getD_eq_getElem?_getD, List.getElem?_map, List.getElem?_eq_getElem hi']

/-- `… LEFT JOIN __splink__nodes_integer_mapping ON on` where, for the left row of `a`, `on` holds of the mapping row
at position `key a` and of no other: every left row gets exactly that mapping row.  The four joins of the edge
statements are instances; those on `composite_unique_id` have `key a = pi order v` by `getD_eq_iff_pi`. -/
theorem join_mapping {α : Type} (order : List Nat) (L : List α) (fa : α → Row) (key : α → Nat) (on : Expr)
    (hkey : ∀ a ∈ L, key a < order.length)
    (hon : ∀ a ∈ L, ∀ i, i < order.length → on.holds (fa a ++ [iv (order.getD i 0), iv i]) = (i == key a)) :
    joinRows true on (L.map fa) (GMSql.mapping (orderVals order)) 2
      = L.map fun a => fa a ++ [iv (order.getD (key a) 0), iv (key a)] := by
  apply joinRows_lookup_eq
  intro a ha
  rw [mapping_eq, List.filter_map, Function.comp_def, filter_eq_singleton (x := key a) List.nodup_range
    (List.mem_range.mpr (hkey a ha)) ((hon a ha _ (hkey a ha)).trans (beq_self_eq_true _))
    fun i hi h => beq_iff_eq.mp ((hon a ha i (List.mem_range.mp hi)).symm.trans h), List.map_singleton]

/-- `l = x` is TRUE only for the id `l` itself: NULL never matches. -/
theorem eq_encOptNat_holds (l : Nat) (a : Option Nat) :
    (Cmp.eq.eval (iv l) (encOptNat a) == Val.bool true) = (a == some l) := by
  cases a with
  | none => rfl
  | some x =>
    rw [encOptNat, cmp_eq_int, bool_beq_true, iv_eq_decide, Bool.beq_comm]
    rfl

/-- The `ON e.unique_id_l = b.node_l AND e.unique_id_r = b.node_r` predicate. -/
theorem edgeOn_holds (l r : Nat) (pv : Val) (q : Option Nat × Option Nat) :
    (Expr.and (Expr.cmp Cmp.eq (Expr.col 0) (Expr.col 3)) (Expr.cmp Cmp.eq (Expr.col 1) (Expr.col 4))).holds
      ([iv l, iv r, pv] ++ brRow q) = (q == (some l, some r)) := by
  obtain ⟨a, b⟩ := q
  rw [holds_and]
  simp only [Expr.holds, Expr.eval, brRow, List.cons_append, List.nil_append, List.getD_cons_succ,
    List.getD_cons_zero, eq_encOptNat_holds]
  rfl

theorem decodePairs_pairRow (g : List (Nat × Nat)) : decodePairs (g.map pairRow) = g := by
  rw [decodePairs, List.map_map]
  refine (List.map_congr_left fun q _ => ?_).trans (List.map_id g)
  simp only [Function.comp_apply, pairRow, List.getD_cons_zero, List.getD_cons_succ, valNat, Int.toNat_natCast]
  rfl

theorem bridgeRows_enc (bridges : List (Nat × Nat) → List Nat) (g : List (Nat × Nat)) :
    ((bridges (decodePairs (g.map pairRow))).filterMap fun k => (g.map pairRow)[k]?)
      = (bridgeRows bridges g).map pairRow := by
  rw [decodePairs_pairRow, bridgeRows, List.map_filterMap]
  apply List.filterMap_congr
  intro k _
  rw [List.getElem?_map]

theorem kept_mem_order {order : List Nat} {edges : List (Nat × Nat × Int)} {thr : Int}
    (hmem : ∀ e ∈ edges, e.1 ∈ order ∧ e.2.1 ∈ order) : ∀ e ∈ kept thr edges, e.1 ∈ order ∧ e.2 ∈ order := by
  intro e he
  obtain ⟨x, hx, rfl⟩ := List.mem_map.mp he
  exact hmem x (List.mem_filter.mp hx).1

theorem bridgeRows_relabel_lt (bridges : List (Nat × Nat) → List Nat) {order : List Nat} {es : List Edge}
    (hmem : ∀ e ∈ es, e.1 ∈ order ∧ e.2 ∈ order) :
    ∀ q ∈ bridgeRows bridges (es.map (Lemmas.GM.relabel order)), q.1 < order.length ∧ q.2 < order.length := by
  intro q hq
  obtain ⟨k, _, hk⟩ := Lemmas.GM.mem_bridgeRows.mp hq
  obtain ⟨e, he, rfl⟩ := List.mem_map.mp (List.mem_of_getElem? hk)
  exact ⟨Lemmas.GM.pi_lt (hmem e he).1, Lemmas.GM.pi_lt (hmem e he).2⟩

/-! ## The pipelines as compositions

Every statement reads one or two tables, so each `runStmts` of `Model/GMSql.lean` is a composition of the statements'
`eval`s in databases that hold nothing but what is read (`fun _ => t` has the table `t` under every name).  The table
names are literals: `String.reduceEq` tells two of them apart by the first character in which they differ, where
`decide` would compare them in full. -/

theorem nodes_pipeline (predict clustered : List Row) (thr : Val) :
    GMSql.nodes predict clustered thr = Gen.GMSql.graphMetricsNodes.eval fun _ =>
      Gen.GMSql.graphMetricsNodeDegree.eval (Db.set (fun _ => clustered) "__splink__all_nodes"
        (Gen.GMSql.allNodes.eval fun _ => (Gen.GMSql.truncatedEdges thr).eval fun _ => predict)) := by
  simp only [GMSql.nodes, GMSql.baseDb, Gen.GMSql.nodeStmts, runStmts, Gen.GMSql.graphMetricsNodes,
    Gen.GMSql.graphMetricsNodeDegree, Gen.GMSql.allNodes, Gen.GMSql.truncatedEdges, Rel.eval, set_same, set_ne, ne_eq, String.reduceEq, not_false_eq_true]

theorem clusters_pipeline (nodesTab : List Row) :
    GMSql.clusters nodesTab
      = Gen.GMSql.graphMetricsClusters.eval fun _ => Gen.GMSql.countsPerCluster.eval fun _ => nodesTab := by
  simp only [GMSql.clusters, Gen.GMSql.clusterStmts, runStmts, Gen.GMSql.graphMetricsClusters,
    Gen.GMSql.countsPerCluster, Rel.eval, set_same]

theorem edgesForIgraph_pipeline (predict : List Row) (order : List Val) (thr : Val) :
    GMSql.edgesForIgraph predict order thr = Gen.GMSql.edgesWithMappedIds.eval
      (Db.set (fun _ => (Gen.GMSql.truncatedEdges thr).eval fun _ => predict) "__splink__nodes_integer_mapping"
        (GMSql.mapping order)) := by
  simp only [GMSql.edgesForIgraph, GMSql.baseDb, Gen.GMSql.edgeStmtsBefore, runStmts, Gen.GMSql.edgesWithMappedIds,
    Gen.GMSql.truncatedEdges, Rel.eval, set_same, set_ne, ne_eq, String.reduceEq, not_false_eq_true]

theorem edges_pipeline (bridges : List Row → List Nat) (predict : List Row) (order : List Val) (thr : Val) :
    GMSql.edges bridges predict order thr = Gen.GMSql.graphMetricsEdges.eval
      (Db.set (fun _ => (Gen.GMSql.truncatedEdges thr).eval fun _ => predict) "__splink__bridges_only"
        (Gen.GMSql.bridgesOnly.eval
          (Db.set (fun _ => (bridges (GMSql.edgesForIgraph predict order thr)).filterMap fun k =>
              (GMSql.edgesForIgraph predict order thr)[k]?)
            "__splink__nodes_integer_mapping" (GMSql.mapping order)))) := by
  simp only [GMSql.edges, GMSql.edgesForIgraph, GMSql.baseDb, Gen.GMSql.edgeStmtsBefore, Gen.GMSql.edgeStmtsAfter,
    runStmts, Gen.GMSql.graphMetricsEdges, Gen.GMSql.bridgesOnly, Gen.GMSql.edgesWithMappedIds,
    Gen.GMSql.truncatedEdges, Rel.eval, set_same, set_ne, ne_eq, String.reduceEq, not_false_eq_true]

end SplinkVerif.Lemmas.GMSql
