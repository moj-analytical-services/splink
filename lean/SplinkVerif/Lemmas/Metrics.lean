import SplinkVerif.Model.Levels
import SplinkVerif.Lemmas.Lists
import Mathlib.Algebra.Order.Field.Rat
import Mathlib.Tactic.NormNum
/-!
# Laws of the reference string metrics of `Model/Levels.lean` (C16)

* `lev` (Wagner–Fischer rows, the one the driver runs) equals `levSpec` (textbook recursion) on all strings.  `levSpec`
  moves by at most one with every character added to either string; its bounds by the lengths and, with them, the
  triangle inequality rest on that.
* `jaroSim` is two nested folds (`jaroSim_eq`), with one invariant behind its range and one behind its value on equal strings.
* `jaccardSim` as a quotient of list lengths (`jaccardSim_eq`, `interLen`); `jaroWinklerSim` stays in `[0, 1]` when
  `jaroSim` does.  The symmetry, range and reflexivity laws themselves are in `Properties/C16Metrics.lean`.
-/
namespace SplinkVerif.Metrics
open SplinkVerif SplinkVerif.Levels

/-! ## Numbers of `[0, 1]` -/

theorem natCast_div_mem {k n : Nat} (h : k ≤ n) : 0 ≤ (k : Rat) / (n : Rat) ∧ (k : Rat) / (n : Rat) ≤ 1 :=
  ⟨div_nonneg (Nat.cast_nonneg _) (Nat.cast_nonneg _), div_le_one_of_le₀ (Nat.cast_le.2 h) (Nat.cast_nonneg _)⟩

theorem mean3_mem {x y z : Rat} (hx : 0 ≤ x ∧ x ≤ 1) (hy : 0 ≤ y ∧ y ≤ 1) (hz : 0 ≤ z ∧ z ≤ 1) :
    0 ≤ (x + y + z) / 3 ∧ (x + y + z) / 3 ≤ 1 :=
  ⟨div_nonneg (add_nonneg (add_nonneg hx.1 hy.1) hz.1) (by norm_num),
    div_le_one_of_le₀ ((add_le_add (add_le_add hx.2 hy.2) hz.2).trans (by norm_num)) (by norm_num)⟩

theorem boost_mem {j w : Rat} (hj : j ≤ 1) (h0 : 0 ≤ w) (h1 : w ≤ 1) :
    j ≤ j + w * (1 - j) ∧ j + w * (1 - j) ≤ 1 :=
  ⟨le_add_of_nonneg_right (mul_nonneg h0 (sub_nonneg.2 hj)),
    le_sub_iff_add_le'.1 (mul_le_of_le_one_left (sub_nonneg.2 hj) h1)⟩

/-! ## `levSpec` equations -/

theorem levSpec_nil_left (b : List Char) : levSpec [] b = b.length :=
  levSpec.eq_1 b

theorem levSpec_nil_right (a : List Char) : levSpec a [] = a.length := by
  cases a with
  | nil => exact levSpec.eq_1 []
  | cons x a => exact levSpec.eq_2 _ nofun

theorem levSpec_cons_cons (x y : Char) (a b : List Char) :
    levSpec (x :: a) (y :: b) =
      min (levSpec a (y :: b) + 1)
        (min (levSpec (x :: a) b + 1) (levSpec a b + (if x = y then 0 else 1))) :=
  levSpec.eq_3 x a y b

/-! ## Wagner–Fischer = textbook recursion -/

/-- The row of `levSpec a` against every suffix of `b`, longest first. -/
def sufRow (a : List Char) : List Char → List Nat
  | [] => [levSpec a []]
  | y :: b => levSpec a (y :: b) :: sufRow a b

theorem sufRow_headD (a b : List Char) : (sufRow a b).headD 0 = levSpec a b := by
  cases b <;> simp [sufRow]

theorem sufRow_tail_cons (a : List Char) (y : Char) (b : List Char) :
    (sufRow a (y :: b)).tail = sufRow a b := by
  simp [sufRow]

theorem sufRow_nil_left (b : List Char) : sufRow [] b = downFrom b.length := by
  induction b with
  | nil => simp [sufRow, downFrom, levSpec_nil_left]
  | cons y b ih => simp [sufRow, downFrom, levSpec_nil_left, ih]

theorem levStep_sufRow (x : Char) (a b : List Char) :
    levStep x b (sufRow a b) = sufRow (x :: a) b := by
  induction b with
  | nil => simp [levStep, sufRow, levSpec_nil_right]
  | cons y b ih =>
    simp only [levStep, sufRow_tail_cons, ih, sufRow_headD]
    rw [sufRow, levSpec_cons_cons]

theorem levRow_eq_sufRow (a b : List Char) : levRow a b = sufRow a b := by
  induction a with
  | nil => simp [levRow, sufRow_nil_left]
  | cons x a ih => simp [levRow, ih, levStep_sufRow]

theorem sufRow_eq_range (a b : List Char) :
    sufRow a b = (List.range (b.length + 1)).map (fun k => levSpec a (b.drop k)) := by
  induction b with
  | nil => simp [sufRow]
  | cons y b ih =>
    rw [List.length_cons, List.range_succ_eq_map, List.map_cons, List.map_map, sufRow, ih]
    simp [Function.comp_def]

/-! ## `levSpec`: symmetry, one more character moves it by at most one -/

theorem levSpec_self (a : List Char) : levSpec a a = 0 := by
  induction a with
  | nil => simp [levSpec_nil_left]
  | cons x a ih =>
    rw [levSpec_cons_cons, ih]
    simp

theorem levSpec_symm (a b : List Char) : levSpec a b = levSpec b a := by
  fun_induction levSpec a b with
  | case1 b => exact (levSpec_nil_right b).symm
  | case2 a h => exact (levSpec_nil_left a).symm
  | case3 x a y b ih1 ih2 ih3 =>
    rw [levSpec_cons_cons, ih1, ih2, ih3, if_congr (eq_comm (a := x) (b := y)) rfl rfl, Nat.min_left_comm]

theorem levSpec_cons_left_le (x : Char) (a b : List Char) :
    levSpec (x :: a) b ≤ levSpec a b + 1 := by
  cases b with
  | nil => simp [levSpec_nil_right]
  | cons y b =>
    rw [levSpec_cons_cons]
    omega

theorem levSpec_cons_right_le (y : Char) (a b : List Char) :
    levSpec a (y :: b) ≤ levSpec a b + 1 := by
  rw [levSpec_symm a (y :: b), levSpec_symm a b]
  exact levSpec_cons_left_le y b a

theorem levSpec_cons_cons_le (x y : Char) (a b : List Char) :
    levSpec (x :: a) (y :: b) ≤ levSpec a b + (if x = y then 0 else 1) := by
  rw [levSpec_cons_cons]
  omega

theorem levSpec_le_cons_left (x : Char) (a b : List Char) :
    levSpec a b ≤ levSpec (x :: a) b + 1 := by
  induction b with
  | nil =>
    simp only [levSpec_nil_right, List.length_cons]
    omega
  | cons y b ih =>
    have h := levSpec_cons_right_le y a b
    rw [levSpec_cons_cons]
    omega

theorem levSpec_le_cons_right (y : Char) (a b : List Char) :
    levSpec a b ≤ levSpec a (y :: b) + 1 := by
  rw [levSpec_symm a b, levSpec_symm a (y :: b)]
  exact levSpec_le_cons_left y b a

/-! ## `levSpec`: bounds by the lengths, identity of indiscernibles, triangle inequality -/

theorem levSpec_le_max_len (a b : List Char) : levSpec a b ≤ max a.length b.length := by
  induction a generalizing b with
  | nil => simp [levSpec_nil_left]
  | cons x a iha =>
    cases b with
    | nil => simp [levSpec_nil_right]
    | cons y b =>
      have h1 := levSpec_cons_cons_le x y a b
      have h2 := iha b
      have h3 : (if x = y then 0 else 1 : Nat) ≤ 1 := by split <;> omega
      simp only [List.length_cons]
      omega

theorem levSpec_ge_len_sub (a b : List Char) : a.length - b.length ≤ levSpec a b := by
  induction b with
  | nil => simp [levSpec_nil_right]
  | cons y b ih =>
    have h := levSpec_le_cons_right y a b
    simp only [List.length_cons]
    omega

theorem levSpec_ge_len_diff (a b : List Char) :
    a.length - b.length ≤ levSpec a b ∧ b.length - a.length ≤ levSpec a b :=
  ⟨levSpec_ge_len_sub a b, levSpec_symm b a ▸ levSpec_ge_len_sub b a⟩

theorem levSpec_eq_zero_iff (a b : List Char) : levSpec a b = 0 ↔ a = b := by
  refine ⟨fun h => ?_, fun h => h ▸ levSpec_self a⟩
  fun_induction levSpec a b with
  | case1 b => exact (List.eq_nil_of_length_eq_zero h).symm
  | case2 a _ => exact List.eq_nil_of_length_eq_zero h
  | case3 x a y b ih1 ih2 ih3 =>
    split at h
    · rw [‹x = y›, ih3 (by omega)]
    · omega

theorem ite_ne_triangle (x y z : Char) :
    (if x = z then 0 else 1 : Nat) ≤ (if x = y then 0 else 1) + (if y = z then 0 else 1) := by
  by_cases h1 : x = y
  · subst h1
    simp
  · by_cases h2 : y = z
    · subst h2
      simp
    · simp only [h1, h2, if_false]
      split <;> omega

theorem levSpec_triangle (a b c : List Char) : levSpec a c ≤ levSpec a b + levSpec b c := by
  induction a generalizing b c with
  | nil =>
    have := (levSpec_ge_len_diff b c).2
    simp only [levSpec_nil_left]
    omega
  | cons x a iha =>
    induction b generalizing c with
    | nil =>
      have := levSpec_le_max_len (x :: a) c
      rw [levSpec_nil_left, levSpec_nil_right]
      omega
    | cons y b ihb =>
      induction c with
      | nil =>
        have := (levSpec_ge_len_diff (x :: a) (y :: b)).1
        rw [levSpec_nil_right, levSpec_nil_right]
        omega
      | cons z c ihc =>
        -- By the branch that attains `levSpec (x :: a) (y :: b)` (`e1`) and, in the third, `levSpec (y :: b) (z :: c)` (`e2`):
        -- drop `x`: `u1`, `i1`; insert `y`: `i4`, `l4`; substitute `x` by `y`, and then drop `y`: `u1`, `i2`;
        -- insert `z`: `u2`, `ihc`; substitute `y` by `z`: `u3`, `i3`, `k`.
        have e1 := levSpec_cons_cons x y a b
        have e2 := levSpec_cons_cons y z b c
        have k := ite_ne_triangle x y z
        have i1 := iha (y :: b) (z :: c)
        have i2 := iha b (z :: c)
        have i3 := iha b c
        have i4 := ihb (z :: c)
        have l4 := levSpec_le_cons_left y b (z :: c)
        have u1 := levSpec_cons_left_le x a (z :: c)
        have u2 := levSpec_cons_right_le z (x :: a) c
        have u3 := levSpec_cons_cons_le x z a c
        generalize (if x = y then 0 else 1 : Nat) = dxy at *
        generalize (if y = z then 0 else 1 : Nat) = dyz at *
        generalize (if x = z then 0 else 1 : Nat) = dxz at *
        omega

/-! ## `levSpec`: equal heads, appended characters -/

theorem levSpec_cons_cons_same (x : Char) (a b : List Char) :
    levSpec (x :: a) (x :: b) = levSpec a b := by
  have h1 := levSpec_le_cons_right x a b
  have h2 := levSpec_le_cons_left x a b
  rw [levSpec_cons_cons]
  simp only [if_true]
  omega

theorem levSpec_append_self_right (b c : List Char) : levSpec b (b ++ c) ≤ c.length := by
  induction b with
  | nil => simp [levSpec_nil_left]
  | cons x b ih =>
    rw [List.cons_append, levSpec_cons_cons_same]
    exact ih

theorem levSpec_append_right_le (a b c : List Char) :
    levSpec a (b ++ c) ≤ levSpec a b + c.length := by
  have h1 := levSpec_triangle a b (b ++ c)
  have h2 := levSpec_append_self_right b c
  omega

/-! ## `jaccardSim` -/

/-- Size of the intersection as `jaccardSim` counts it. -/
def interLen (sa sb : List Char) : Nat := (sa.filter (fun c => sb.contains c)).length

theorem interLen_comm (sa sb : List Char) (ha : sa.Nodup) (hb : sb.Nodup) :
    interLen sa sb = interLen sb sa := by
  unfold interLen
  apply List.Perm.length_eq
  rw [List.perm_ext_iff_of_nodup (ha.filter _) (hb.filter _)]
  intro c
  simp only [List.mem_filter, List.contains_iff_mem]
  exact And.comm

theorem interLen_le_left (sa sb : List Char) : interLen sa sb ≤ sa.length :=
  List.length_filter_le _ _

theorem interLen_le_right (sa sb : List Char) (ha : sa.Nodup) (hb : sb.Nodup) :
    interLen sa sb ≤ sb.length := by
  rw [interLen_comm sa sb ha hb]
  exact interLen_le_left sb sa

theorem interLen_self (sa : List Char) : interLen sa sa = sa.length := by
  unfold interLen
  rw [List.filter_eq_self.2]
  intro c hc
  simpa using hc

theorem jaccardSim_eq (a b : List Char) :
    jaccardSim a b =
      if a = [] ∨ b = [] then none
      else some (((interLen a.eraseDups b.eraseDups : Nat) : Rat) /
        ((a.eraseDups.length + b.eraseDups.length - interLen a.eraseDups b.eraseDups : Nat) : Rat)) := by
  simp only [jaccardSim, interLen, Bool.or_eq_true, List.isEmpty_iff, Lemmas.Lists.eraseDups_eq_nil_iff]

/-! ## `jaroSim` as a functional program -/

/-- Body of the inner loop of `jaroSim`: position `j` of `t` is taken for position `i` of `s` if `i` has no partner
yet, `j` is free and the characters agree.  The state is read by projections throughout: `st.1` the flags of `t`,
`st.2.1` the flags of `s`, `st.2.2.1` the number of matches, `st.2.2.2` whether `i` has found its partner (the outer
loop drops the last, so there `st.2.2` is the number of matches). -/
def scanStep (s t : Array Char) (i : Nat) (st : Array Bool × Array Bool × Nat × Bool) (j : Nat) :
    Array Bool × Array Bool × Nat × Bool :=
  if !st.2.2.2 && !st.1[j]! && s[i]! == t[j]! then (st.1.set! j true, st.2.1.set! i true, st.2.2.1 + 1, true)
  else st

/-- Body of the outer loop: scan the window around `i`. -/
def matchStep (s t : Array Char) (win : Nat) (st : Array Bool × Array Bool × Nat) (i : Nat) :
    Array Bool × Array Bool × Nat :=
  let r := (List.range' (i - win) (min (i + win + 1) t.size - (i - win))).foldl (scanStep s t i)
    (st.1, st.2.1, st.2.2, false)
  (r.1, r.2.1, r.2.2.1)

/-- What `jaroSim` returns from the final state of the matching. -/
def jaroValue (s t : Array Char) (st : Array Bool × Array Bool × Nat) : Rat :=
  let ms := (List.range s.size).filter (fun i => st.2.1[i]!) |>.map (fun i => s[i]!)
  let mt := (List.range t.size).filter (fun j => st.1[j]!) |>.map (fun j => t[j]!)
  let halfTrans := ((ms.zip mt).filter (fun p => p.1 != p.2)).length / 2
  ((st.2.2 : Rat) / (s.size : Nat) + (st.2.2 : Rat) / (t.size : Nat) +
    ((st.2.2 : Rat) - (halfTrans : Nat)) / (st.2.2 : Rat)) / 3

/-- The state `jaroSim` ends its matching in: flags of `b`, flags of `a`, number of matches. -/
def jaroMatch (a b : List Char) : Array Bool × Array Bool × Nat :=
  (List.range' 0 a.length).foldl (matchStep a.toArray b.toArray (max a.length b.length / 2 - 1))
    (Array.replicate b.length false, Array.replicate a.length false, 0)

theorem jaroSim_eq (a b : List Char) :
    jaroSim a b =
      if a.length == 0 && b.length == 0 then 1 else if a.length == 0 || b.length == 0 then 0 else
      if (jaroMatch a b).2.2 == 0 then 0 else jaroValue a.toArray b.toArray (jaroMatch a b) := by
  unfold jaroSim
  -- with the `if` of the inner body pushed under `pure (ForInStep.yield ·)` both loops always continue: they are folds
  simp only [← apply_ite (f := fun x => (pure (ForInStep.yield x) : Id _)), Lemmas.Lists.forIn_range_eq_foldl, pure_bind]
  rfl

/-! ## `jaroSim`: the invariant behind its range -/

theorem array_filter_range_length (tm : Array Bool) :
    ((List.range tm.size).filter (fun j => tm[j]!)).length = tm.count true := by
  have h : tm.toList = (List.range tm.size).map (fun j => tm[j]!) := by
    apply List.ext_getElem
    · simp
    · intro i h1 h2
      have : i < tm.size := by simpa using h1
      simp [this]
  rw [← Array.count_toList, h, List.count_eq_countP, List.countP_map, List.countP_eq_length_filter]
  congr 1
  apply List.filter_congr
  intro j _
  simp

theorem count_set_true (tm : Array Bool) (j : Nat) (hj : j < tm.size) (hf : tm[j]! = false) :
    (tm.set! j true).count true = tm.count true + 1 := by
  rw [getElem!_pos tm j hj] at hf
  simp [Array.setIfInBounds, hj, Array.count_set, hf]

/-- The `m` flags `tm` count the `k` matches made, at most `c` of them. -/
def Counted (m c : Nat) (tm : Array Bool) (k : Nat) : Prop := tm.size = m ∧ tm.count true = k ∧ k ≤ c

/-- Within round `i` the bound on the matches is `c + found.toNat`: the round adds at most one match, and `found`
says whether it has; `matchStep_counted` takes `c = i` and lets go of `found` at the end of the scan. -/
theorem scanStep_counted (s t : Array Char) (i j c : Nat) (st : Array Bool × Array Bool × Nat × Bool)
    (hj : j < t.size) (h : Counted t.size (c + st.2.2.2.toNat) st.1 st.2.2.1) :
    let r := scanStep s t i st j
    Counted t.size (c + r.2.2.2.toNat) r.1 r.2.2.1 := by
  obtain ⟨tm, sm, k, found⟩ := st
  obtain ⟨h1, h2, h3⟩ := h
  unfold scanStep
  split
  · rename_i hc
    simp only [Bool.and_eq_true, Bool.not_eq_true'] at hc
    obtain ⟨⟨hf, htm⟩, _⟩ := hc
    simp only at hf htm h1 h2 h3
    rw [hf] at h3
    refine ⟨?_, ?_, ?_⟩
    · simpa using h1
    · rw [count_set_true tm j (by omega) htm, h2]
    · simpa using h3
  · exact ⟨h1, h2, h3⟩

/-- Every round of the outer loop adds at most one match. -/
theorem matchStep_counted (s t : Array Char) (win i : Nat) (st : Array Bool × Array Bool × Nat)
    (h : Counted t.size i st.1 st.2.2) :
    let r := matchStep s t win st i
    Counted t.size (i + 1) r.1 r.2.2 := by
  have := Lemmas.Lists.foldl_range'_inv (fun _ r => Counted t.size (i + r.2.2.2.toNat) r.1 r.2.2.1) (scanStep s t i)
    (i - win) (min (i + win + 1) t.size - (i - win)) (st.1, st.2.1, st.2.2, false) h
    (fun j r _ hj => scanStep_counted s t i j i r (by omega))
  obtain ⟨h1, h2, h3⟩ := this
  exact ⟨h1, h2, Nat.le_trans h3 (Nat.add_le_add_left (Bool.toNat_le _) _)⟩

/-- The flags of `b` keep their size, as many are set as there are matches, and `i` rounds make at most `i` matches. -/
theorem jaroMatch_counted (a b : List Char) : Counted b.length a.length (jaroMatch a b).1 (jaroMatch a b).2.2 := by
  have := Lemmas.Lists.foldl_range'_inv (fun i st => Counted b.toArray.size i st.1 st.2.2)
    (matchStep a.toArray b.toArray (max a.length b.length / 2 - 1)) 0 a.length
    (Array.replicate b.length false, Array.replicate a.length false, 0)
    ⟨by simp, by simp [Array.count_replicate], Nat.le_refl _⟩ (fun i st _ _ => matchStep_counted _ _ _ i st)
  simpa [jaroMatch] using this

/-- With at most `|s|` matches, counted by the flags of `t`, the value is a mean of three numbers of `[0, 1]`. -/
theorem jaroValue_range (s t : Array Char) (st : Array Bool × Array Bool × Nat)
    (h : Counted t.size s.size st.1 st.2.2) : 0 ≤ jaroValue s t st ∧ jaroValue s t st ≤ 1 := by
  obtain ⟨h1, h2, h3⟩ := h
  have hk : (0 : Rat) ≤ (st.2.2 : Rat) := Nat.cast_nonneg _
  have ht : st.2.2 ≤ t.size := by
    rw [← h2, ← h1]
    exact Array.count_le_size
  refine mean3_mem (natCast_div_mem h3) (natCast_div_mem ht)
    ⟨div_nonneg (sub_nonneg.2 (Nat.cast_le.2 ?_)) hk, div_le_one_of_le₀ (sub_le_self _ (Nat.cast_nonneg _)) hk⟩
  -- half the number of out-of-order matches is at most the number of matched positions of `t`
  refine Nat.le_trans (Nat.div_le_self _ _) (Nat.le_trans (List.length_filter_le _ _) ?_)
  rw [List.length_zip, List.length_map, List.length_map, ← h1, array_filter_range_length, h2]
  exact Nat.min_le_right _ _

/-! ## `jaroSim`: the invariant on equal strings -/

/-- The first `i` flags (and only those) are set. -/
def Flags (arr : Array Bool) (n i : Nat) : Prop := arr.size = n ∧ ∀ j, j < n → arr[j]! = decide (j < i)

theorem flags_init (n : Nat) : Flags (Array.replicate n false) n 0 := by
  refine ⟨by simp, ?_⟩
  intro j hj
  rw [getElem!_pos _ j (by simpa using hj)]
  simp

theorem flags_set {arr : Array Bool} {n i : Nat} (h : Flags arr n i) (hi : i < n) :
    Flags (arr.set! i true) n (i + 1) := by
  obtain ⟨hs, hf⟩ := h
  refine ⟨by simpa using hs, ?_⟩
  intro j hj
  by_cases hij : i = j
  · subst hij
    rw [Array.getElem!_set!_self _ _ _ (by omega)]
    simp
  · rw [Array.getElem!_set!_ne _ _ _ _ hij, hf j hj]
    have : (j < i) ↔ (j < i + 1) := by omega
    simp [this]

/-- After `p` rounds on equal strings: `p` matches, exactly the first `p` flags set on both sides. -/
def Matched (n p : Nat) (tm sm : Array Bool) (k : Nat) : Prop := k = p ∧ Flags tm n p ∧ Flags sm n p

/-- On equal strings the scan of round `i` takes position `i` itself: before `j`, found iff `i < j`. -/
theorem scanStep_self (s : Array Char) (n i j : Nat) (st : Array Bool × Array Bool × Nat × Bool) (hi : i < n)
    (hf : st.2.2.2 = decide (i < j)) (h : Matched n (i + st.2.2.2.toNat) st.1 st.2.1 st.2.2.1) :
    let r := scanStep s s i st j
    r.2.2.2 = decide (i < j + 1) ∧ Matched n (i + r.2.2.2.toNat) r.1 r.2.1 r.2.2.1 := by
  obtain ⟨tm, sm, k, found⟩ := st
  obtain ⟨hk, ht, hs⟩ := h
  simp only at hf hk ht hs
  subst hf
  unfold scanStep
  rcases Nat.lt_trichotomy j i with hlt | rfl | hgt
  · have htm : tm[j]! = true := by
      rw [ht.2 j (by omega)]
      exact decide_eq_true (by omega)
    rw [if_neg (by simp [htm])]
    exact ⟨decide_eq_decide.2 (by omega), hk, ht, hs⟩
  · simp only [Nat.lt_irrefl, decide_false, Bool.toNat_false, Nat.add_zero] at hk ht hs
    have htm : tm[j]! = false := by
      rw [ht.2 j hi]
      simp
    rw [if_pos (by simp [htm])]
    exact ⟨by simp, by simp [hk], flags_set ht hi, flags_set hs hi⟩
  · have e : decide (i < j) = true := decide_eq_true hgt
    rw [e] at hk ht hs ⊢
    rw [if_neg (by simp)]
    exact ⟨(decide_eq_true (by omega)).symm, hk, ht, hs⟩

/-- On equal strings round `i` matches position `i` with itself. -/
theorem matchStep_self (s : Array Char) (win i : Nat) (st : Array Bool × Array Bool × Nat) (hi : i < s.size)
    (h : Matched s.size i st.1 st.2.1 st.2.2) :
    let r := matchStep s s win st i
    Matched s.size (i + 1) r.1 r.2.1 r.2.2 := by
  have := Lemmas.Lists.foldl_range'_inv
    (fun j r => r.2.2.2 = decide (i < j) ∧ Matched s.size (i + r.2.2.2.toNat) r.1 r.2.1 r.2.2.1) (scanStep s s i)
    (i - win) (min (i + win + 1) s.size - (i - win)) (st.1, st.2.1, st.2.2, false)
    ⟨(decide_eq_false (by omega)).symm, h⟩ (fun j r _ _ hr => scanStep_self s s.size i j r hi hr.1 hr.2)
  -- the window of round `i` contains `i`, so the scan ends past it
  rw [show i - win + (min (i + win + 1) s.size - (i - win)) = min (i + win + 1) s.size by omega] at this
  obtain ⟨hf, hm⟩ := this
  rw [hf, decide_eq_true (by omega)] at hm
  exact hm

/-- On equal strings every position is matched to itself. -/
theorem jaroMatch_self (a : List Char) :
    Matched a.length a.length (jaroMatch a a).1 (jaroMatch a a).2.1 (jaroMatch a a).2.2 := by
  have := Lemmas.Lists.foldl_range'_inv (fun i st => Matched a.length i st.1 st.2.1 st.2.2)
    (matchStep a.toArray a.toArray (max a.length a.length / 2 - 1)) 0 a.length
    (Array.replicate a.length false, Array.replicate a.length false, 0)
    ⟨rfl, flags_init _, flags_init _⟩ (fun i st _ hi => matchStep_self a.toArray _ i st (by simpa using hi))
  rwa [Nat.zero_add] at this

theorem zip_self_filter_ne (l : List Char) : (l.zip l).filter (fun p => p.1 != p.2) = [] := by
  induction l with
  | nil => rfl
  | cons x l ih => simp [ih]

theorem filter_flags_full {arr : Array Bool} {n : Nat} (h : Flags arr n n) :
    (List.range n).filter (fun i => arr[i]!) = List.range n := by
  rw [List.filter_eq_self]
  intro j hj
  have hj' : j < n := by simpa using hj
  rw [h.2 j hj']
  simpa using hj'

theorem jaroValue_self (s : Array Char) (st : Array Bool × Array Bool × Nat) (hn : s.size ≠ 0)
    (h : Matched s.size s.size st.1 st.2.1 st.2.2) : jaroValue s s st = 1 := by
  obtain ⟨hk, ht, hs⟩ := h
  unfold jaroValue
  simp only
  rw [filter_flags_full hs, filter_flags_full ht, zip_self_filter_ne, hk]
  have hq : (s.size : Rat) ≠ 0 := by exact_mod_cast hn
  -- no transposition is left, so each of the three terms is `|s| / |s|`
  rw [List.length_nil, Nat.zero_div, Nat.cast_zero, sub_zero, div_self hq]
  norm_num

/-! ## `jaroWinklerSim` -/

theorem jaroWinklerSim_mem (a b : List Char) (h1 : jaroSim a b ≤ 1) :
    jaroSim a b ≤ jaroWinklerSim a b ∧ jaroWinklerSim a b ≤ 1 := by
  unfold jaroWinklerSim
  simp only
  split
  · have hp : ((min (commonPrefix a b) 4 : Nat) : Rat) ≤ 4 := by exact_mod_cast Nat.min_le_right _ 4
    exact boost_mem h1 (mul_nonneg (Nat.cast_nonneg _) (by norm_num))
      ((mul_le_mul_of_nonneg_right hp (by norm_num)).trans (by norm_num))
  · exact ⟨le_refl _, h1⟩

end SplinkVerif.Metrics
