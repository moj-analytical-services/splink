import Mathlib.Data.List.Nodup
import Mathlib.Data.List.Perm.Basic
import SplinkVerif.Lemmas.Rel
import SplinkVerif.Lemmas.BlockingAnalysis
import SplinkVerif.Model.BCountSql
/-!
# The counting SQL of `blocking_analysis.py` computes block products (C14, SQL level)

`USING (key_0, …)` holds on a pair of group rows iff the key tuples are equal and NULL-free (`holds_usingCond`), so the join
of the two `GROUP BY` side statements has one row per block key (`join_grp`).  The three statements are evaluated as a
composition of `eval`s on the databases they read (`run_sides`; both sides may read the same table).  This gives
`__splink__block_counts` row for row (`blocks_eq`, `topRows_eq`), its total as the sum of the block products
(`preFilterTotal_eq_sum`), which is the size of the equi-join by double counting (`sum_blocks_eq_equiJoin`), and the bridge
to the functional model on coded keys (`equiJoinSize_eq_model`).  Then `ORDER BY … LIMIT n`, `__splink__df_concat` (`concat_eval`) and `_row_counts_per_input_table` (`countsOf_bySd`).
-/
namespace SplinkVerif.Lemmas.BCountSql
open SplinkVerif SplinkVerif.Rel SplinkVerif.Lemmas.Rel SplinkVerif.BCountSql
open SplinkVerif.Lemmas.Lists (getD_append_lt getD_append_add getD_append_at map_range_getD range_getD getD_mem
  length_filter_reindex)

/-! ## Three-valued conjunctions -/

theorem holds_conj (es : List Expr) (row : Row) : (conj es).holds row = es.all (·.holds row) := by
  cases es with
  | nil => rfl
  | cons e es => rw [conj, holds_foldl_and, List.all_cons]

/-! ## `USING (key_0, …)` on two group rows -/

theorem getD_left (ka kb : List Val) (ca cb : Val) (i : Nat) (hi : i < ka.length) :
    ((ka ++ [ca]) ++ (kb ++ [cb])).getD i .null = ka.getD i .null := by
  rw [getD_append_lt _ _ _ (by rw [List.length_append]; exact Nat.lt_add_right _ hi), getD_append_lt _ _ _ hi]

theorem getD_right (ka kb : List Val) (ca cb : Val) (i : Nat) (hi : i < kb.length) :
    ((ka ++ [ca]) ++ (kb ++ [cb])).getD (ka.length + 1 + i) .null = kb.getD i .null := by
  rw [getD_append_add _ _ _ (n := _ + 1) List.length_append, getD_append_lt _ _ _ hi]

theorem nullFree_iff (k : List Val) : nullFree k = true ↔ ∀ v ∈ k, v ≠ Val.null := by
  simp only [nullFree, List.all_eq_true, bne_iff_ne]

/-- `USING` is SQL equality of the key tuples (NULL never joins), on a left group row `ka ++ [count_l]` and a right
group row `kb ++ [count_r]`. -/
theorem holds_usingCond (ka kb : List Val) (ca cb : Val) (h : kb.length = ka.length) :
    (usingCond ka.length).holds ((ka ++ [ca]) ++ (kb ++ [cb])) = (nullFree ka && ka == kb) := by
  have hpt : ∀ i (hi : i < ka.length),
      (Expr.cmp Cmp.eq (Expr.col i) (Expr.col (ka.length + 1 + i))).holds ((ka ++ [ca]) ++ (kb ++ [cb])) = true ↔
        ka[i] ≠ Val.null ∧ ka[i] = kb[i]'(h ▸ hi) := by
    intro i hi
    rw [holds_eq_cols, getD_left ka kb ca cb i hi, getD_right ka kb ca cb i (h ▸ hi), Lists.getD_lt _ _ hi,
      Lists.getD_lt _ _ (h ▸ hi), Bool.and_eq_true, bne_iff_ne, beq_iff_eq]
  rw [usingCond, holds_conj, List.all_map, Bool.eq_iff_iff, List.all_eq_true, Bool.and_eq_true,
    nullFree_iff, beq_iff_eq, List.forall_mem_iff_forall_getElem (l := ka), List.ext_getElem_iff]
  constructor
  · intro hall
    exact ⟨fun i hi => ((hpt i hi).mp (hall i (List.mem_range.mpr hi))).1, h.symm,
      fun i hi _ => ((hpt i hi).mp (hall i (List.mem_range.mpr hi))).2⟩
  · rintro ⟨h1, _, h2⟩ i hi
    exact (hpt i (List.mem_range.mp hi)).mpr ⟨h1 i _, h2 i _ _⟩

/-! ## The side statements -/

/-- the rows of a side statement: one per distinct key tuple (NULL components included), with its multiplicity -/
def grp (ks : List Expr) (T : List Row) : List Row :=
  ((T.map (keyOf ks)).eraseDups).map fun k => k ++ [Val.int (sizeOf ks T k : Nat)]

theorem groupRows_count (ks : List Expr) (hk : ks ≠ []) (T : List Row) :
    groupRows ks [Agg.countStar] T = grp ks T := by
  rw [groupRows_keys ks hk]
  rfl

/-! ## The join of the two side statements -/

theorem length_of_mem_keys (ks : List Expr) (T : List Row) (k : List Val)
    (h : k ∈ (T.map (keyOf ks)).eraseDups) : k.length = ks.length := by
  rw [List.mem_eraseDups, List.mem_map] at h
  obtain ⟨row, _, rfl⟩ := h
  simp [keyOf]

/-- the right group rows a left group row `ka ++ [ca]` joins with: the one with the same key, if `ka` is NULL-free
and present on the right -/
theorem filter_grp (kr : List Expr) (R : List Row) (ka : List Val) (ca : Val) (hlen : kr.length = ka.length) :
    (grp kr R).filter (fun x => (usingCond ka.length).holds ((ka ++ [ca]) ++ x))
      = if nullFree ka && (R.map (keyOf kr)).contains ka then [ka ++ [Val.int (sizeOf kr R ka : Nat)]] else [] := by
  unfold grp
  rw [List.filter_map]
  have hf : ((R.map (keyOf kr)).eraseDups).filter
        ((fun x => (usingCond ka.length).holds ((ka ++ [ca]) ++ x)) ∘ fun k => k ++ [Val.int (sizeOf kr R k : Nat)])
      = ((R.map (keyOf kr)).eraseDups).filter (fun kb => nullFree ka && ka == kb) :=
    List.filter_congr fun kb hkb => holds_usingCond ka kb ca _ ((length_of_mem_keys kr R kb hkb).trans hlen)
  rw [hf]
  cases nullFree ka
  · have h0 : ((R.map (keyOf kr)).eraseDups.filter fun kb => false && ka == kb) = [] :=
      List.filter_eq_nil_iff.mpr fun _ _ h => Bool.false_ne_true h
    rw [h0]
    rfl
  · have h1 : ((R.map (keyOf kr)).eraseDups.filter fun kb => true && ka == kb)
        = if ka ∈ (R.map (keyOf kr)).eraseDups then [ka] else [] := Lists.filter_beq_nodup _ (Lists.nodup_eraseDups _) ka
    rw [h1]
    by_cases hm : ka ∈ (R.map (keyOf kr)).eraseDups
    · rw [if_pos hm, if_pos ((Bool.true_and _).trans (List.contains_iff_mem.mpr (List.mem_eraseDups.mp hm)))]
      rfl
    · rw [if_neg hm, if_neg fun h =>
        hm (List.mem_eraseDups.mpr (List.contains_iff_mem.mp ((Bool.true_and _).symm.trans h)))]
      rfl

/-- **The join of the two side statements, projected**: one row per block key, in the order of first occurrence on the left. -/
theorem join_grp (kl kr : List Expr) (hlen : kr.length = kl.length) (L R : List Row) (proj : List Expr) :
    (joinRows false (usingCond kl.length) (grp kl L) (grp kr R) (kl.length + 1)).map
        (fun row => proj.map (·.eval row))
      = (((L.map (keyOf kl)).eraseDups).filter fun k =>
            nullFree k && (R.map (keyOf kr)).contains k).map fun k =>
          proj.map (·.eval ((k ++ [Val.int (sizeOf kl L k : Nat)]) ++ (k ++ [Val.int (sizeOf kr R k : Nat)]))) := by
  simp only [joinRows, Bool.false_and, Bool.false_eq_true, if_false]
  rw [List.map_flatMap]
  have hL : grp kl L = ((L.map (keyOf kl)).eraseDups).map fun k => k ++ [Val.int (sizeOf kl L k : Nat)] := rfl
  rw [hL, List.flatMap_map]
  rw [← Lists.flatMap_ite]
  apply List.flatMap_congr
  intro ka hka
  rw [← length_of_mem_keys kl L ka hka] at hlen ⊢
  rw [filter_grp kr R ka _ hlen]
  by_cases h : (nullFree ka && (R.map (keyOf kr)).contains ka) = true
  · rw [if_pos h, if_pos h]
    rfl
  · rw [if_neg h, if_neg h]
    rfl

/-! ## The projections on a joined pair of group rows -/

theorem getD_cntl (k rest : List Val) (a : Val) : ((k ++ [a]) ++ rest).getD k.length .null = a := by
  rw [getD_append_lt _ _ _ (by rw [List.length_append]; exact Nat.lt_succ_self _)]
  exact getD_append_add k [a] _ rfl 0

theorem getD_cntr (k : List Val) (a b : Val) :
    ((k ++ [a]) ++ (k ++ [b])).getD (2 * k.length + 1) .null = b := by
  rw [Nat.two_mul, Nat.add_right_comm, getD_append_add _ _ _ (n := _ + 1) List.length_append]
  exact getD_append_add k [b] _ rfl 0

theorem countCols_eval (k : List Val) (a b : Int) :
    (countCols k.length).map (·.eval ((k ++ [Val.int a]) ++ (k ++ [Val.int b])))
      = [Val.int a, Val.int b, Val.int (a * b)] := by
  simp only [countCols, List.map_cons, List.map_nil, Expr.eval, getD_cntl, getD_cntr, Arith.eval]

/-! ## The block keys -/

theorem nodup_blockKeys (keys : List (Expr × Expr)) (L R : List Row) : (blockKeys keys L R).Nodup :=
  (Lists.nodup_eraseDups _).filter _

theorem mem_blockKeys (keys : List (Expr × Expr)) (L R : List Row) (k : List Val) :
    k ∈ blockKeys keys L R ↔
      (∃ l ∈ L, keyOf (keys.map (·.1)) l = k) ∧ (∃ r ∈ R, keyOf (keys.map (·.2)) r = k) ∧ ∀ v ∈ k, v ≠ Val.null := by
  unfold blockKeys
  rw [List.mem_filter, List.mem_eraseDups, List.mem_map, Bool.and_eq_true, nullFree_iff, List.contains_iff_mem,
    List.mem_map]
  constructor
  · rintro ⟨h1, h2, h3⟩
    exact ⟨h1, h3, h2⟩
  · rintro ⟨h1, h3, h2⟩
    exact ⟨h1, h2, h3⟩

theorem sizeOf_pos (ks : List Expr) (T : List Row) (k : List Val) (h : ∃ row ∈ T, keyOf ks row = k) :
    0 < BCountSql.sizeOf ks T k :=
  (Lemmas.Lists.mem_keys_iff_pos T (keyOf ks) k).mp (List.mem_eraseDups.mpr (List.mem_map.mpr h))

theorem blockRow_injective (keys : List (Expr × Expr)) (L R : List Row) (a b : List Val)
    (hlen : a.length = b.length) (h : a ++ blockRow keys L R a = b ++ blockRow keys L R b) : a = b :=
  (List.append_inj h hlen).1

theorem length_of_mem_blockKeys (keys : List (Expr × Expr)) (L R : List Row) (k : List Val)
    (h : k ∈ blockKeys keys L R) : k.length = keys.length :=
  (length_of_mem_keys (keys.map (·.1)) L k (List.mem_filter.mp h).1).trans (List.length_map _)

/-! ## Running the pipelines -/

theorem names_ne : nameBlocks ≠ nameTotal ∧ nameL ≠ nameR ∧ nameL ≠ nameBlocks ∧ nameR ≠ nameBlocks := by
  simp only [nameBlocks, nameTotal, nameL, nameR, ne_eq, String.reduceEq, not_false_eq_true, and_self]

theorem tables_ne (two : Bool) : tableL two ≠ nameL ∧ tableR two ≠ nameL ∧ tableR two ≠ nameR ∧ tableL two ≠ nameR := by
  cases two <;>
    simp only [tableL, tableR, nameL, nameR, nameConcat, ne_eq, String.reduceEq, not_false_eq_true, and_self,
      ↓reduceIte, Bool.false_eq_true]

/-- the database the join statement is evaluated on: the two side tables are the group rows of the inputs -/
theorem run_sides (two : Bool) (keys : List (Expr × Expr)) (hk : keys ≠ []) (db : Db) (proj : List Expr) :
    (Rel.project proj (joined keys.length)).eval
        (Db.set (Db.set db nameL ((sideStmt (keys.map (·.1)) (tableL two)).eval db)) nameR
          ((sideStmt (keys.map (·.2)) (tableR two)).eval
            (Db.set db nameL ((sideStmt (keys.map (·.1)) (tableL two)).eval db))))
      = (blockKeys keys (db (tableL two)) (db (tableR two))).map fun k =>
          proj.map (·.eval ((k ++ [Val.int (cntL keys (db (tableL two)) k : Nat)])
            ++ (k ++ [Val.int (cntR keys (db (tableR two)) k : Nat)]))) := by
  have h1 : (keys.map (·.1)) ≠ [] := mt List.map_eq_nil_iff.mp hk
  have h2 : (keys.map (·.2)) ≠ [] := mt List.map_eq_nil_iff.mp hk
  have hlen : (keys.map (·.2)).length = (keys.map (·.1)).length := (List.length_map _).trans (List.length_map _).symm
  have hk1 : keys.length = (keys.map (·.1)).length := (List.length_map _).symm
  rw [eval_project, joined, eval_join, eval_table, eval_table, set_same,
    set_ne _ _ _ _ names_ne.2.1, set_same]
  simp only [sideStmt, eval_groupBy, eval_table, set_ne _ _ _ _ (tables_ne two).2.1]
  rw [groupRows_count _ h1, groupRows_count _ h2, hk1]
  exact join_grp _ _ hlen _ _ proj

theorem blocks_eq_pre (two : Bool) (keys : List (Expr × Expr)) (db : Db) :
    blocks two keys db = (runStmts db (preFilterStmts two keys)) nameBlocks := by
  unfold blocks countStmts
  rw [runStmts_append_single]
  exact set_ne _ _ _ _ names_ne.1

/-- **`__splink__block_counts`, row for row**: one row `(count_l, count_r, count_l * count_r)` per block key (a key tuple
present on both sides with no NULL component), in the order of first occurrence on the left. -/
theorem blocks_eq (two : Bool) (keys : List (Expr × Expr)) (hk : keys ≠ []) (db : Db) :
    blocks two keys db
      = (blockKeys keys (db (tableL two)) (db (tableR two))).map
          (blockRow keys (db (tableL two)) (db (tableR two))) := by
  rw [blocks_eq_pre]
  unfold preFilterStmts
  simp only [List.isEmpty_eq_false_iff.2 hk, Bool.false_eq_true, if_false, runStmts]
  rw [set_same]
  have := run_sides two keys hk db (countCols keys.length)
  unfold blocksStmt
  rw [this]
  apply List.map_congr_left
  intro k hk'
  rw [← length_of_mem_blockKeys keys _ _ k hk', countCols_eval]
  rfl

/-- the rows `n_largest_blocks` orders: `key_0, …, count_l, count_r, block_count` per block key -/
theorem topRows_eq (two : Bool) (keys : List (Expr × Expr)) (hk : keys ≠ []) (db : Db) :
    topRows two keys db
      = (blockKeys keys (db (tableL two)) (db (tableR two))).map fun k =>
          k ++ blockRow keys (db (tableL two)) (db (tableR two)) k := by
  unfold topRows nLargestStmts preFilterStmts
  simp only [List.isEmpty_eq_false_iff.2 hk, Bool.false_eq_true, if_false, List.cons_append, List.nil_append, runStmts]
  rw [set_same]
  -- the first `__splink__block_counts` is shadowed; the last statement reads only the two side tables
  have hsh : ∀ (d : Db) (rows : List Row), (topStmt keys.length).eval (Db.set d nameBlocks rows) = (topStmt keys.length).eval d := by
    intro d rows
    simp only [topStmt, joined, eval_project, eval_join, eval_table, set_ne _ _ _ _ names_ne.2.2.1,
      set_ne _ _ _ _ names_ne.2.2.2]
  rw [hsh]
  have := run_sides two keys hk db ((List.range keys.length).map Expr.col ++ countCols keys.length)
  unfold topStmt
  rw [this]
  apply List.map_congr_left
  intro k hk'
  rw [← length_of_mem_blockKeys keys _ _ k hk', List.map_append, countCols_eval, List.append_assoc, cols_eval]
  rfl

/-! ## The total -/

theorem total_rows (two : Bool) (keys : List (Expr × Expr)) (db : Db) :
    (runStmts db (countStmts two keys)) nameTotal
      = [[sumVals ((blocks two keys db).map fun r => r.getD 2 .null)]] := by
  rw [blocks_eq_pre]
  unfold countStmts
  rw [runStmts_append_single, set_same]
  rfl

/-- SQL `sum` over a column of products of counts, as Python reads it (`None` for no row is 0) -/
theorem totalOf_sumVals_prod (ps : List (Nat × Nat)) :
    totalOf [[sumVals (ps.map fun p => Val.int ((p.1 : Nat) * (p.2 : Nat)))]] = (ps.map fun p => p.1 * p.2).sum := by
  cases ps with
  | nil => rfl
  | cons p ps =>
    have h : ((p :: ps).map fun p : Nat × Nat => ((p.1 : Nat) : Int) * (p.2 : Nat))
        = (p :: ps).map fun p => ((p.1 * p.2 : Nat) : Int) :=
      List.map_congr_left fun p _ => (Int.natCast_mul _ _).symm
    rw [sumVals_map_int (fun p : Nat × Nat => ((p.1 : Nat) : Int) * (p.2 : Nat)), if_neg (List.cons_ne_nil _ _),
      h, Lists.sum_map_natCast _ fun p : Nat × Nat => p.1 * p.2]
    exact Int.toNat_natCast _

theorem preFilterTotal_of_blocks (two : Bool) (keys : List (Expr × Expr)) (db : Db) (ps : List (Nat × Nat))
    (h : blocks two keys db
      = ps.map fun p => [Val.int (p.1 : Nat), Val.int (p.2 : Nat), Val.int ((p.1 : Nat) * (p.2 : Nat))]) :
    preFilterTotal two keys db = (ps.map fun p => p.1 * p.2).sum := by
  unfold preFilterTotal
  rw [total_rows, h, List.map_map]
  exact totalOf_sumVals_prod ps

theorem preFilterTotal_eq_sum (two : Bool) (keys : List (Expr × Expr)) (hk : keys ≠ []) (db : Db) :
    preFilterTotal two keys db
      = ((blockKeys keys (db (tableL two)) (db (tableR two))).map fun k =>
          cntL keys (db (tableL two)) k * cntR keys (db (tableR two)) k).sum := by
  have h := preFilterTotal_of_blocks two keys db
    ((blockKeys keys (db (tableL two)) (db (tableR two))).map fun k =>
      (cntL keys (db (tableL two)) k, cntR keys (db (tableR two)) k))
    (by rw [blocks_eq two keys hk, List.map_map]; rfl)
  rwa [List.map_map] at h

/-! ## Sum of block products = size of the equi-join -/

/-- **Double counting**: the sum over the block keys of `count_l * count_r` is the number of pairs (row of `L`, row of
`R`) whose key tuples are equal and NULL-free. -/
theorem sum_blocks_eq_equiJoin (keys : List (Expr × Expr)) (L R : List Row) :
    ((blockKeys keys L R).map fun k => cntL keys L k * cntR keys R k).sum = equiJoinSize keys L R := by
  unfold blockKeys equiJoinSize
  rw [Lemmas.Lists.sum_equiJoin_by_groups L R _ _ nullFree, Lemmas.Lists.sum_map_filter, Lemmas.Lists.sum_map_filter]
  refine congrArg List.sum (List.map_congr_left fun k _ => ?_)
  -- a key tuple that does not occur on the right has an empty right group
  cases hc : (R.map (keyOf (keys.map (·.2)))).contains k
  · rw [Bool.and_false, if_neg Bool.false_ne_true]
    have hz : (R.filter fun r => keyOf (keys.map (·.2)) r == k).length = 0 :=
      Nat.eq_zero_of_not_pos fun h => Bool.false_ne_true (hc.symm.trans (List.contains_iff_mem.mpr
        (List.mem_eraseDups.mp ((Lemmas.Lists.mem_keys_iff_pos R _ k).mpr h))))
    rw [hz, Nat.mul_zero, ite_self]
  · rw [Bool.and_true]
    rfl

/-! ## No equi-join key -/

/-- **No key**: the one row `(|L|, |R|, |L| · |R|)` (the self-join form `count(*) * count(*)` and the two scalar subqueries
of the two-table form). -/
theorem blocks_noKeys (two : Bool) (db : Db) :
    blocks two [] db = [[Val.int ((db (tableL two)).length : Nat), Val.int ((db (tableR two)).length : Nat),
      Val.int (((db (tableL two)).length : Nat) * ((db (tableR two)).length : Nat))]] := by
  rw [blocks_eq_pre]
  cases two
  · show Db.set db nameBlocks (Gen.BCountSql.self0Blocks.eval db) nameBlocks = _
    rw [set_same]
    rfl
  · show Db.set db nameBlocks (Gen.BCountSql.two0Blocks.eval db) nameBlocks = _
    rw [set_same]
    rfl

/-! ## `ORDER BY … LIMIT n` -/

theorem isOrderLimit_spec {key : Expr} {desc : Bool} {n : Nat} {rows out : List Row}
    (h : IsOrderLimit key desc n rows out) :
    out.length = min n rows.length ∧ out.Pairwise (mayPrecede key desc) ∧
      ∃ rest, (out ++ rest).Perm rows ∧ ∀ a ∈ out, ∀ b ∈ rest, mayPrecede key desc a b := by
  obtain ⟨sorted, hperm, hsorted, rfl⟩ := h
  exact Lemmas.Lists.take_sorted_perm hperm hsorted n

theorem strictlyBefore_int {key : Expr} {desc : Bool} {a b : Row} {x y : Int}
    (ha : key.eval a = Val.int x) (hb : key.eval b = Val.int y) :
    strictlyBefore key desc a b = if desc then decide (y < x) else decide (x < y) := by
  unfold strictlyBefore
  rw [ha, hb]
  rfl

theorem mayPrecede_int {key : Expr} {desc : Bool} {a b : Row} {x y : Int}
    (ha : key.eval a = Val.int x) (hb : key.eval b = Val.int y) :
    mayPrecede key desc a b ↔ if desc then y ≤ x else x ≤ y := by
  unfold mayPrecede
  rw [strictlyBefore_int hb ha]
  cases desc <;> simp

/-- The executable resolution is a possible result when the keys are integers. -/
theorem isOrderLimit_orderLimit (key : Expr) (desc : Bool) (n : Nat) (rows : List Row)
    (hint : ∀ r ∈ rows, ∃ x, key.eval r = Val.int x) :
    IsOrderLimit key desc n rows (orderLimit key desc n rows) := by
  refine ⟨_, Lists.sort_perm (before := fun r c => strictlyBefore key desc r c = true)
      (ins := insertByKey key desc) (fun _ => rfl) (fun _ _ _ => rfl) rows,
    Lists.sort_pairwise (before := fun r c => strictlyBefore key desc r c = true)
      (ins := insertByKey key desc) (S := fun r => ∃ x, key.eval r = Val.int x) (fun _ => rfl) (fun _ _ _ => rfl)
      ?_ ?_ ?_ rows hint, rfl⟩
  · rintro a b ⟨x, hx⟩ ⟨y, hy⟩ h
    rw [strictlyBefore_int hx hy] at h
    rw [mayPrecede_int hx hy]
    cases desc
    · exact Int.le_of_lt (of_decide_eq_true h)
    · exact Int.le_of_lt (of_decide_eq_true h)
  · exact fun a b _ _ h => Bool.eq_false_iff.mpr h
  · rintro a b c ⟨x, hx⟩ ⟨y, hy⟩ ⟨z, hz⟩
    rw [mayPrecede_int hx hy, mayPrecede_int hy hz, mayPrecede_int hx hz]
    cases desc
    · exact Int.le_trans
    · exact fun h1 h2 => Int.le_trans h2 h1

/-! ## `n_largest_blocks` -/

theorem topKey_eval (keys : List (Expr × Expr)) (L R : List Row) (k : List Val) (hlen : k.length = keys.length) :
    (topKey keys.length).eval (k ++ blockRow keys L R k)
      = Val.int ((cntL keys L k : Nat) * (cntR keys R k : Nat)) := by
  rw [← hlen]
  have h1 : (k ++ blockRow keys L R k).getD k.length Val.null = Val.int (cntL keys L k : Nat) :=
    getD_append_add k _ _ rfl 0
  have h2 : (k ++ blockRow keys L R k).getD (k.length + 1) Val.null = Val.int (cntR keys R k : Nat) :=
    getD_append_add k _ _ rfl 1
  simp only [topKey, Expr.eval, h1, h2, Arith.eval]

/-! ## Bridge to the functional model `BlockingAnalysis.preFilterCount` -/

/-- The functional model's key of record `i` of table `T`: a code of the key tuple, `none` when a component is NULL
(what `harness/props/c14.py: model_request` sends). -/
def codedKey (code : List Val → Nat) (ks : List Expr) (T : List Row) (i : Nat) : Option Nat :=
  let k := keyOf ks (T.getD i [])
  if nullFree k then some (code k) else none

theorem coded_match (code : List Val → Nat) (a b : List Val) (hinj : code a = code b → a = b) :
    ((if nullFree a then some (code a) else none : Option Nat).isSome &&
        (if nullFree a then some (code a) else none : Option Nat) == (if nullFree b then some (code b) else none))
      = (nullFree a && a == b) := by
  cases hna : nullFree a
  · rfl
  cases hnb : nullFree b
  · have hab : (a == b) = false := beq_eq_false_iff_ne.mpr fun h => by rw [h, hnb] at hna; cases hna
    rw [hab]
    rfl
  · exact (Bool.true_and _).trans ((Option.some_beq_some).trans (Lists.beq_map_inj hinj))

/-- **The SQL total is the functional model's `preFilterCount`** on record indices and coded keys, for every coding that is
injective on the key tuples in play. -/
theorem equiJoinSize_eq_model (keys : List (Expr × Expr)) (L R : List Row) (code : List Val → Nat)
    (hinj : ∀ a ∈ L.map (keyOf (keys.map (·.1))) ++ R.map (keyOf (keys.map (·.2))),
            ∀ b ∈ L.map (keyOf (keys.map (·.1))) ++ R.map (keyOf (keys.map (·.2))), code a = code b → a = b) :
    equiJoinSize keys L R =
      BlockingAnalysis.preFilterCount (List.range L.length) (List.range R.length)
        (codedKey code (keys.map (·.1)) L) (codedKey code (keys.map (·.2)) R) := by
  rw [Lemmas.BA.preFilterCount_eq, Lemmas.BA.length_joinFilter]
  unfold equiJoinSize
  conv_lhs => rw [← range_getD L [], List.map_map]
  apply congrArg
  apply List.map_congr_left
  intro i hi
  simp only [Function.comp]
  rw [length_filter_reindex _ []]
  congr 1
  apply List.filter_congr
  intro j hj
  have ha : keyOf (keys.map (·.1)) (L.getD i []) ∈
      L.map (keyOf (keys.map (·.1))) ++ R.map (keyOf (keys.map (·.2))) :=
    List.mem_append_left _ (List.mem_map_of_mem (getD_mem L [] hi))
  have hb : keyOf (keys.map (·.2)) (R.getD j []) ∈
      L.map (keyOf (keys.map (·.1))) ++ R.map (keyOf (keys.map (·.2))) :=
    List.mem_append_right _ (List.mem_map_of_mem (getD_mem R [] hj))
  exact (coded_match code _ _ (hinj _ ha _ hb)).symm

/-! ## `__splink__df_concat` -/

theorem cols_eval_self (row : Row) : ((List.range row.length).map Expr.col).map (·.eval row) = row := by
  have := cols_eval row []
  rwa [List.append_nil] at this

theorem concatOne_eval (w : Nat) (n : String) (db : Db) (hw : ∀ row ∈ db n, row.length = w) :
    (concatOne w n).eval db = db n := by
  rw [concatOne, eval_project, eval_table]
  conv_rhs => rw [← List.map_id (db n)]
  apply List.map_congr_left
  intro row hrow
  rw [← hw row hrow]
  exact cols_eval_self row

theorem concatTerm_eval (w : Nat) (n : String) (db : Db) (hw : ∀ row ∈ db n, row.length = w) :
    (concatTerm w n).eval db = (db n).map fun row => Val.str n :: row := by
  rw [concatTerm, eval_project, eval_table]
  apply List.map_congr_left
  intro row hrow
  rw [List.map_cons, ← hw row hrow, cols_eval_self]
  rfl

/-- **`__splink__df_concat` holds the rows of the input tables, in order** (prefixed with the table's alias as
`source_dataset` when there are several), provided every input row has the `w` columns the statement lists. -/
theorem concat_eval (w : Nat) (names : List String) (hne : names ≠ []) (db : Db)
    (hw : ∀ n ∈ names, ∀ row ∈ db n, row.length = w) :
    (concatStmt w names).eval db = concatRows names db := by
  match names, hne, hw with
  | [n], _, hw => exact concatOne_eval w n db (hw n List.mem_cons_self)
  | n :: m :: ns, _, hw =>
    show ((m :: ns).foldl (fun acc m => Rel.union true acc (concatTerm w m)) (concatTerm w n)).eval db = _
    rw [← List.foldl_map, foldl_union_eval, List.flatMap_map, concatTerm_eval w n db (hw n List.mem_cons_self),
      List.flatMap_congr fun k hk => concatTerm_eval w k db (hw k (List.mem_cons_of_mem _ hk))]
    rfl

/-! ## `_row_counts_per_input_table` -/

theorem rowCounts_bySd (sd : Expr) (db : Db) :
    rowCounts false sd db
      = (((db nameConcat).map sd.eval).eraseDups).map fun s =>
          [Val.int (((db nameConcat).filter fun r => sd.eval r == s).length : Nat)] := by
  show (Rel.project [Expr.col 1] (Rel.groupBy [sd] [Agg.countStar] (Rel.table nameConcat))).eval db = _
  rw [eval_project, eval_groupBy, eval_table, groupRows_count _ (List.cons_ne_nil _ _)]
  unfold grp
  have hk : (db nameConcat).map (keyOf [sd]) = ((db nameConcat).map sd.eval).map fun v => [v] := by
    rw [List.map_map]
    rfl
  rw [hk, Lists.eraseDups_map_inj (fun v : Val => [v]) (fun _ _ h => (List.cons.inj h).1), List.map_map,
    List.map_map]
  apply List.map_congr_left
  intro s _
  simp only [Function.comp, List.map_cons, List.map_nil, Expr.eval, BCountSql.sizeOf, keyOf]
  simp [List.getD]

/-- **The per-dataset row counts are the functional model's `sdCounts`** for every table `t` whose source-dataset function is an
injective coding of the values of the source dataset column. -/
theorem countsOf_bySd (sd : Expr) (db : Db) (t : Blocking.Table) (code : Val → Nat)
    (hinj : ∀ a b, code a = code b → a = b) (hm : t.m = (db nameConcat).length)
    (hsd : ∀ i, i < t.m → t.sd i = code (sd.eval ((db nameConcat).getD i []))) :
    countsOf (rowCounts false sd db) = Lemmas.BA.sdCounts t := by
  rw [rowCounts_bySd]
  unfold Lemmas.BA.sdCounts countsOf
  have hmap : (List.range t.m).map t.sd = ((db nameConcat).map sd.eval).map code := by
    conv_rhs => rw [← range_getD (db nameConcat) [], List.map_map, List.map_map, ← hm]
    apply List.map_congr_left
    intro i hi
    exact hsd i (List.mem_range.mp hi)
  rw [hmap, Lists.eraseDups_map_inj code hinj, List.map_map, List.map_map]
  apply List.map_congr_left
  intro s _
  simp only [Function.comp, Int.toNat_natCast]
  rw [length_filter_reindex _ [], hm]
  congr 1
  apply List.filter_congr
  intro i hi
  rw [hsd i (hm ▸ List.mem_range.mp hi), Lists.beq_map_inj (hinj _ _)]

end SplinkVerif.Lemmas.BCountSql
