import SplinkVerif.Generated.Dialects
/-!
# Lemmas about the generated dialect table (`Generated/Dialects.lean`)

Every statement is a finite quantifier over `Gen.dialectTable` / `Gen.levelComparators`,
decided by kernel evaluation (`decide`), so each is a proof about the table that
`harness/translate/tdialect.py` produced from /repo and the real backends in this run.
-/
namespace SplinkVerif.Lemmas.Dialects
open SplinkVerif

theorem allKinds_complete (k : Kind) : k ∈ allKinds := by cases k <;> decide

/-- Two classifications of the same kind agree with each other and with the levels. -/
def Agree (k : Kind) (a b : Option (Orientation × Bool)) : Prop :=
  match a, b with
  | some (o1, n1), some (o2, n2) => o1 = o2 ∧ o1 = expectedOrientation k ∧ n1 = true ∧ n2 = true
  | _, _ => True

instance (k : Kind) (a b : Option (Orientation × Bool)) : Decidable (Agree k a b) := by
  unfold Agree
  split <;> infer_instance

theorem agree_table :
    ∀ d1 ∈ Gen.dialectTable, ∀ d2 ∈ Gen.dialectTable, ∀ k ∈ allKinds,
      Agree k (d1.classOf k) (d2.classOf k) := by decide +kernel

/-- DuckDB's functions are built in, SQLite's are registered by `SQLiteAPI._register_udfs`:
whatever these two dialects emit must evaluate, and to a classifiable function. -/
theorem emitted_runs_table :
    ∀ d ∈ Gen.dialectTable, d.executed = true → (d.dialect = .duckdb ∨ d.dialect = .sqlite) →
      ∀ k ∈ allKinds, d.supports k = true → (d.classOf k).isSome = true := by decide +kernel

theorem comparators_table :
    ∀ d ∈ Gen.dialectTable, ∀ k ∈ allKinds, d.supports k = true →
      (d.dialect, k, (expectedOrientation k).comparator) ∈ Gen.levelComparators := by decide +kernel

theorem infinity_table :
    ∀ d ∈ Gen.dialectTable, (d.infinity.all InfinityProbe.ok) = true := by decide +kernel

end SplinkVerif.Lemmas.Dialects
