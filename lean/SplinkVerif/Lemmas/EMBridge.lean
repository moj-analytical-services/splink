import SplinkVerif.Model.EM
import SplinkVerif.Lemmas.Score
import SplinkVerif.Lemmas.EMLikelihood
import Mathlib.Algebra.BigOperators.Fin
/-!
# Bridge: the executable E-step (`EM.eProb`) is the abstract posterior (`EML.post`)

At `ℝ`, for parameters without term-frequency adjustments and without `u = 0`.  The abstraction (`absParams`,
`absPattern`) indexes the levels of a comparison by their position; the position of a null level is never
the value of a pattern.  Each Bayes-factor column is then a ratio of abstract factors (`bfColumn_patOf`), and
prior odds times a product of ratios `a c / b c`, mapped by `bf / (1 + bf)`, is the posterior of the
two-class mixture with class likelihoods `∏ a` and `∏ b` (`eProb_of_terms`).
-/
namespace SplinkVerif.Lemmas.EMBridge
open SplinkVerif SplinkVerif.Score SplinkVerif.Lemmas.Score
open SplinkVerif.Lemmas

/-- `bf / (1 + bf)` for the odds `bf = x / y` -/
theorem odds_div_one_add (x y : ℝ) (hy : y ≠ 0) : x / y / (1 + x / y) = x / (x + y) := by
  rw [one_add_div hy, div_div_div_cancel_right₀ hy, add_comm]

theorem allTerms_of_notf (cs : List (Comparison ℝ)) (p : Pair ℝ)
    (hnotf : ∀ c ∈ cs, hasTf c = false) :
    allTerms cs p = (cs.zip p.guards).map fun q => bfColumn q.1 (gamma q.1 q.2) := by
  rw [List.map_eq_flatMap]
  refine List.flatMap_congr fun ⟨c, gs⟩ hmem => ?_
  simp [comparisonTerms, hnotf c (List.of_mem_zip hmem).1]

/-- Prior odds × Bayes factors → `bf / (1 + bf)`, for columns that are finite ratios: the
posterior of a two-class mixture with class likelihoods `∏ a` and `∏ b`. -/
theorem eProb_of_terms (θ : EM.Params ℝ) (r : EM.Row ℝ) {C : ℕ} (a b : Fin C → ℝ)
    (hT : allTerms θ.comps r.pair =
      (List.ofFn fun c => a c / b c).map fun x => some (Fac.fin x))
    (hl1 : θ.prior ≠ 1) (hb : ∀ c, b c ≠ 0) :
    EM.eProb θ r =
      θ.prior * (∏ c, a c) / (θ.prior * (∏ c, a c) + (1 - θ.prior) * ∏ c, b c) := by
  unfold EM.eProb score
  simp only [hT, product_fin, Option.map_some]
  rw [probOf_fin]
  · rw [List.prod_ofFn, Finset.prod_div_distrib, div_mul_div_comm]
    exact odds_div_one_add _ _
      (mul_ne_zero (sub_ne_zero.2 hl1.symm) (Finset.prod_ne_zero_iff.2 fun c _ => hb c))
  · intro t ht f hf
    rw [List.mem_map] at ht
    obtain ⟨x, _, rfl⟩ := ht
    cases hf
    rfl

/-! ## The abstraction: levels indexed by their position -/

/-- position of the first level carrying the value `v` -/
def findLevel : (comp : Comparison ℝ) → Int → Option (Fin comp.length)
  | [], _ => none
  | l :: ls, v => if l.cvv == v then some ⟨0, by simp⟩ else (findLevel ls v).map Fin.succ

theorem find?_eq_findLevel (comp : Comparison ℝ) (v : Int) :
    comp.find? (fun l' => l'.cvv == v) = (findLevel comp v).map fun i => comp[i.val]'i.isLt := by
  induction comp with
  | nil => rfl
  | cons l ls ih =>
    by_cases h : (l.cvv == v) = true
    · simp [findLevel, h]
    · simp only [findLevel, List.find?_cons, h, Bool.false_eq_true, if_false, Option.map_map]
      rw [ih]
      congr 1

theorem findLevel_some_cvv (comp : Comparison ℝ) (v : Int) (i : Fin comp.length)
    (h : findLevel comp v = some i) : (comp[i.val]'i.isLt).cvv = v := by
  have h' := find?_eq_findLevel comp v
  rw [h, Option.map_some] at h'
  exact beq_iff_eq.mp (List.find?_some (p := fun l' : Level ℝ => l'.cvv == v) h')

theorem findLevel_of_mem (comp : Comparison ℝ) (v : Int) (h : ∃ l ∈ comp, l.cvv = v) :
    ∃ i, findLevel comp v = some i := by
  cases hi : findLevel comp v with
  | some i => exact ⟨i, rfl⟩
  | none =>
    have h' := find?_eq_findLevel comp v
    rw [hi, Option.map_none, List.find?_eq_none] at h'
    obtain ⟨l, hl, hv⟩ := h
    exact absurd (beq_iff_eq.2 hv) (h' l hl)

theorem findLevel_nodup (comp : Comparison ℝ) (hnd : (comp.map (·.cvv)).Nodup)
    (i : Fin comp.length) : findLevel comp (comp[i.val]'i.isLt).cvv = some i := by
  obtain ⟨j, hj⟩ := findLevel_of_mem comp _ ⟨_, List.getElem_mem i.isLt, rfl⟩
  have e : (comp.map (·.cvv))[j.val]'(by rw [List.length_map]; exact j.isLt) =
      (comp.map (·.cvv))[i.val]'(by rw [List.length_map]; exact i.isLt) := by
    rw [List.getElem_map, List.getElem_map]
    exact findLevel_some_cvv comp _ j hj
  rw [hj, Fin.ext ((hnd.getElem_inj_iff).mp e)]

/-- the abstract level of a row in one comparison: the position of the selected level,
`none` when that level is the null level -/
def patOf (comp : Comparison ℝ) (gs : List B3) : Option (Fin comp.length) :=
  (gamma comp gs).bind fun v => (findLevel comp v).bind fun i =>
    if comp[i.val].isNull then none else some i

/-- The Bayes-factor column of a comparison that assigns a level is the ratio of the
abstract factors of `patOf`: `1 / 1` at the null level, `m / u` of the position otherwise. -/
theorem bfColumn_patOf (comp : Comparison ℝ) (gs : List B3)
    (htot : (gamma comp gs).isSome = true)
    (hu : ∀ l ∈ comp, l.isNull = false → l.u ≠ 0) :
    bfColumn comp (gamma comp gs) =
        some (Fac.fin (EML.optFac (patOf comp gs) (fun i => (comp[i.val]'i.isLt).m) /
          EML.optFac (patOf comp gs) fun i => (comp[i.val]'i.isLt).u)) ∧
      EML.optFac (patOf comp gs) (fun i => (comp[i.val]'i.isLt).u) ≠ 0 := by
  obtain ⟨v, hv⟩ := Option.isSome_iff_exists.1 htot
  obtain ⟨i, hi⟩ := findLevel_of_mem comp v (gamma_mem comp gs v hv)
  have hfl := find?_eq_findLevel comp v
  rw [hi, Option.map_some] at hfl
  have hb : bfColumn comp (gamma comp gs) = some (levelBF (comp[i.val]'i.isLt)) := by
    rw [hv, bfColumn, hfl, Option.map_some]
  have hp : patOf comp gs = if (comp[i.val]'i.isLt).isNull then none else some i := by
    rw [patOf, hv, Option.bind_some, hi, Option.bind_some]
  rw [hb, hp, levelBF_eq]
  cases hn : (comp[i.val]'i.isLt).isNull with
  | true => exact ⟨by rw [if_pos rfl, if_pos rfl, EML.optFac, EML.optFac, div_one], one_ne_zero⟩
  | false =>
    have h0 := hu _ (List.getElem_mem _) hn
    exact ⟨by rw [if_neg Bool.false_ne_true, if_neg Bool.false_ne_true, if_neg h0]; rfl, h0⟩

/-- number of level positions of comparison `c` -/
def absL (θ : EM.Params ℝ) : Fin θ.comps.length → ℕ := fun c => (θ.comps[c.val]).length

def absParams (θ : EM.Params ℝ) : EML.Params θ.comps.length (absL θ) where
  lam := θ.prior
  m := fun c i => ((θ.comps[c.val])[i.val]'i.isLt).m
  u := fun c i => ((θ.comps[c.val])[i.val]'i.isLt).u

def absPattern (θ : EM.Params ℝ) (r : EM.Row ℝ) : EML.Pattern θ.comps.length (absL θ) :=
  fun c => patOf θ.comps[c.val] (r.pair.guards[c.val]?.getD [])

theorem absPattern_apply (θ : EM.Params ℝ) (r : EM.Row ℝ) (c : Fin θ.comps.length)
    (hc : c.val < r.pair.guards.length) :
    absPattern θ r c = patOf (θ.comps[c.val]'c.isLt) (r.pair.guards[c.val]'hc) := by
  unfold absPattern
  rw [List.getElem?_eq_getElem hc]
  rfl

/-- **Bridge.**  For TF-free parameters with `prior ≠ 1` whose non-null levels have `u ≠ 0`, on
a row for which every comparison assigns a level (e.g. every comparison has an `ELSE` level:
`Lemmas.Score.gamma_total`), the executable E-step probability is the abstract posterior of
`absPattern θ r` under `absParams θ`. -/
theorem eProb_eq_post_of_ne (θ : EM.Params ℝ) (r : EM.Row ℝ) (hl1 : θ.prior ≠ 1)
    (hg : r.pair.guards.length = θ.comps.length)
    (hnotf : ∀ c ∈ θ.comps, hasTf c = false)
    (hu : ∀ c ∈ θ.comps, ∀ l ∈ c, l.isNull = false → l.u ≠ 0)
    (htot : ∀ c : Fin θ.comps.length,
      (gamma (θ.comps[c.val]'c.isLt) (r.pair.guards[c.val]'(c.isLt.trans_eq hg.symm))).isSome = true) :
    EM.eProb θ r = EML.post (absParams θ) (absPattern θ r) := by
  have hcol : ∀ c : Fin θ.comps.length,
      bfColumn (θ.comps[c.val]'c.isLt)
          (gamma (θ.comps[c.val]'c.isLt) (r.pair.guards[c.val]'(c.isLt.trans_eq hg.symm))) =
          some (Fac.fin (EML.fac (absParams θ).m (absPattern θ r) c /
            EML.fac (absParams θ).u (absPattern θ r) c)) ∧
        EML.fac (absParams θ).u (absPattern θ r) c ≠ 0 := by
    intro c
    unfold EML.fac
    rw [absPattern_apply θ r c (c.isLt.trans_eq hg.symm)]
    exact bfColumn_patOf _ _ (htot c) (hu _ (List.getElem_mem _))
  refine eProb_of_terms θ r _ _ ?_ hl1 fun c => (hcol c).2
  rw [allTerms_of_notf _ _ hnotf]
  apply List.ext_getElem
  · rw [List.length_map, List.length_map, List.length_zip, List.length_ofFn, hg, min_self]
  · intro i h1 h2
    rw [List.length_map, List.length_ofFn] at h2
    rw [List.getElem_map, List.getElem_map, List.getElem_zip, List.getElem_ofFn]
    exact (hcol ⟨i, h2⟩).1

/-- The bridge under the hypotheses of `EML.loglik_mono`: `0 < prior < 1`, positive `m`, `u`. -/
theorem eProb_eq_post_abs (θ : EM.Params ℝ) (r : EM.Row ℝ)
    (_hl0 : 0 < θ.prior) (hl1 : θ.prior < 1)
    (hg : r.pair.guards.length = θ.comps.length)
    (hnotf : ∀ c ∈ θ.comps, hasTf c = false)
    (hpos : ∀ c ∈ θ.comps, ∀ l ∈ c, l.isNull = false → 0 < l.m ∧ 0 < l.u)
    (htot : ∀ c : Fin θ.comps.length,
      (gamma (θ.comps[c.val]'c.isLt) (r.pair.guards[c.val]'(c.isLt.trans_eq hg.symm))).isSome = true) :
    EM.eProb θ r = EML.post (absParams θ) (absPattern θ r) :=
  eProb_eq_post_of_ne θ r hl1.ne hg hnotf (fun c hc l hl hn => (hpos c hc l hl hn).2.ne') htot

end SplinkVerif.Lemmas.EMBridge
