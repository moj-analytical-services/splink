import SplinkVerif.Generated.Arith
import SplinkVerif.Lemmas.Estimators
import SplinkVerif.Lemmas.Score
/-!
# The prior odds of the model are what the translated Python helper computes

`Generated/Arith.lean` is regenerated from `splink/internals/misc.py` on every run (number interface
`ANum`, real instance `Lemmas.Est.instANumReal`); the hand-written `Score.priorOdds` uses the interface
`Score.Num` (real instance `Lemmas.Score.instNumReal`).  At `ℝ` the two agree, so a change of the Python
helper breaks a proof obligation of C02 and C03.
-/
namespace SplinkVerif.Lemmas.ArithBridge
open SplinkVerif SplinkVerif.Score SplinkVerif.Lemmas.Est SplinkVerif.Lemmas.Score

theorem prior_factor_translated (p : ℝ) (hp : p ≠ 1) :
    Gen.prob_to_bayes_factor p = some (Score.priorOdds p) := by
  -- `prob != 1` holds, so the helper takes its quotient branch; the literal `1` is the cast `((1 : ℕ) : ℝ)`
  have h : decide (p = 1) = false := decide_eq_false hp
  simp only [Gen.prob_to_bayes_factor, anum_eq, anum_ofNat, anum_div, anum_sub, h, Bool.not_false, if_true,
    Nat.cast_one, priorOdds_eq]

end SplinkVerif.Lemmas.ArithBridge
