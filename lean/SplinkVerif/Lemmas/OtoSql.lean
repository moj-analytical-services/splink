import Mathlib.Data.List.Nodup
import Mathlib.Data.List.Perm.Basic
import SplinkVerif.Lemmas.Rel
import SplinkVerif.Lemmas.CCSql
import SplinkVerif.Lemmas.OneToOneConn
import SplinkVerif.Model.OtoSql
/-!
# The regenerated SQL of `one_to_one_clustering` refines the functional model

Statement by statement, the relational-algebra terms of `Generated/OtoSql.lean` (evaluated with `Rel.eval`) compute the
tables of `Model/OneToOne.lean`.  Each statement has a lemma "if the tables it reads hold the rows of a state `rep` of
the model, its result holds …", valid for ALL inputs, ties included: `ranked` is characterised through "no candidate row
of the partition has a strictly larger probability" (`Rel.rowNumber` numbers every row of maximal probability 1), and
only `accepted_iff_model` uses `TieFree`, to identify those rows with `OneToOne.accepted` for every pair of tie-break
oracles.  `pass_spec` and `init_spec` chain the statement lemmas with `runStmts_meets`; the loop around them is followed
in `Properties/C12Sql.lean`.
-/
namespace SplinkVerif.Lemmas.OtoSql
open SplinkVerif SplinkVerif.Rel SplinkVerif.Lemmas.Rel SplinkVerif.Gen.OtoSql
open SplinkVerif.Lemmas.Lists (getD_append_add getD_append_at getD_append_lt map_range_getD)
open SplinkVerif.OneToOne hiding Row
open SplinkVerif.Lemmas.CCSql (iv iv_inj ne_cast groupMin_perm)

/-- Evaluate scalar expressions on concrete rows (`ev_simp` of `Lemmas/CCSql.lean` with extra simp lemmas). -/
macro "ev_simp" "[" ls:Lean.Parser.Tactic.simpLemma,* "]" "at" h:ident : tactic =>
  `(tactic| simp [Expr.holds, Expr.eval, List.getD_cons_zero, List.getD_cons_succ, $ls,*] at $h:ident)

/-! ## `orJoin` -/

/-- `a₁ or a₂ or …` over boolean (non-NULL) operands. -/
theorem orJoin_eval (row : Row) (es : List Expr) (bs : List Bool)
    (h : es.map (·.eval row) = bs.map Val.bool) : (orJoin es).eval row = .bool (bs.any id) := by
  cases es with
  | nil =>
    cases bs with
    | nil => rfl
    | cons _ _ => simp at h
  | cons e es =>
    cases bs with
    | nil => simp at h
    | cons b bs =>
      simp only [List.map_cons, List.cons.injEq] at h
      simp only [orJoin]
      rw [foldl_or_eval row es bs e b h.1 h.2]
      simp

/-! ## `row_number()` -/

theorem mem_rowNumber {db : Db} {part : List Expr} {key : Expr} {desc : Bool} {r : Rel} {row : Row} :
    row ∈ (Rel.rowNumber part key desc r).eval db ↔ ∃ x ∈ r.eval db, row = x ++ [.int (1 + (((r.eval db).filter fun y =>
        part.map (·.eval y) == part.map (·.eval x) &&
          (if desc then Cmp.gt.eval (key.eval y) (key.eval x) else Cmp.lt.eval (key.eval y) (key.eval x))
            == .bool true).length : Nat))] := by
  rw [eval_rowNumber, List.mem_map]
  constructor
  · rintro ⟨x, hx, rfl⟩; exact ⟨x, hx, rfl⟩
  · rintro ⟨x, hx, rfl⟩; exact ⟨x, hx, rfl⟩

/-- The test "`y` lies in the partition of `x` and strictly before it" of
`row_number() over (partition by <column p> order by <column k> desc)`, as `eval_rowNumber` leaves it with `desc := true`,
on rows whose two columns hold naturals. -/
theorem before_eval (p k : Nat) (x y : Row) (gx gy kx ky : Nat)
    (hgx : x.getD p .null = .int gx) (hgy : y.getD p .null = .int gy)
    (hkx : x.getD k .null = .int kx) (hky : y.getD k .null = .int ky) :
    ([Expr.col p].map (·.eval y) == [Expr.col p].map (·.eval x) &&
      (if true then Cmp.gt.eval ((Expr.col k).eval y) ((Expr.col k).eval x)
        else Cmp.lt.eval ((Expr.col k).eval y) ((Expr.col k).eval x)) == .bool true)
      = (decide (gy = gx) && decide (kx < ky)) := by
  simp only [List.map_cons, List.map_nil, Expr.eval, hgx, hgy, hkx, hky, if_true, cmp_gt_int, bool_beq_true,
    Int.ofNat_lt]
  exact congrArg (· && _) (Lists.beq_map_inj (f := fun n : Nat => [Val.int n]) fun h =>
    int_natCast_inj.mp (List.cons.inj h).1)

/-- `row_number() over (partition by <column p> order by <column k> desc)` over a table of rows `f e`, `e ∈ L` with
`s e`, whose columns `p` and `k` hold the naturals `g e` and `κ e`: every row gets a last column `1 + c e`, where
`c e = 0` iff no row of the partition of `e` has a larger key. -/
theorem rowNumber_desc_spec {α : Type} (db : Db) (R : Rel) (p k : Nat) (L : List α) (s : α → Bool) (f : α → Row)
    (g κ : α → Nat) (hT : ∀ row, row ∈ R.eval db ↔ ∃ e ∈ L, s e = true ∧ row = f e)
    (hp : ∀ e, (f e).getD p .null = .int (g e)) (hk : ∀ e, (f e).getD k .null = .int (κ e)) :
    ∃ c : α → Nat, (∀ e ∈ L, s e = true → (c e = 0 ↔ ∀ e' ∈ L, s e' = true → g e' = g e → ¬ κ e < κ e')) ∧
      ∀ row, row ∈ (Rel.rowNumber [Expr.col p] (Expr.col k) true R).eval db ↔
        ∃ e ∈ L, s e = true ∧ row = f e ++ [Val.int ((1 + c e : Nat) : Int)] := by
  refine ⟨fun e => ((R.eval db).filter fun y => [Expr.col p].map (·.eval y) == [Expr.col p].map (·.eval (f e)) &&
    (if true then Cmp.gt.eval ((Expr.col k).eval y) ((Expr.col k).eval (f e))
      else Cmp.lt.eval ((Expr.col k).eval y) ((Expr.col k).eval (f e))) == .bool true).length, fun e he hs => ?_,
    fun row => ?_⟩
  · rw [List.length_eq_zero_iff, List.filter_eq_nil_iff]
    constructor
    · intro h e' he' hs' hg hlt
      have := h (f e') ((hT _).mpr ⟨e', he', hs', rfl⟩)
      rw [before_eval p k _ _ _ _ _ _ (hp e) (hp e') (hk e) (hk e')] at this
      simp [hg, hlt] at this
    · intro h y hy
      obtain ⟨e', he', hs', rfl⟩ := (hT y).mp hy
      rw [before_eval p k _ _ _ _ _ _ (hp e) (hp e') (hk e) (hk e'), Bool.and_eq_true, decide_eq_true_eq,
        decide_eq_true_eq]
      exact fun ⟨hg, hlt⟩ => h e' he' hs' hg hlt
  · rw [mem_rowNumber]
    constructor
    · rintro ⟨x, hx, rfl⟩
      obtain ⟨e, he, hs, rfl⟩ := (hT x).mp hx
      exact ⟨e, he, hs, rfl⟩
    · rintro ⟨e, he, hs, rfl⟩
      exact ⟨_, (hT _).mpr ⟨e, he, hs, rfl⟩, rfl⟩

/-! ## Encodings -/

theorem iv_ne_null (i : Nat) : iv i ≠ Val.null := by simp [iv]

/-- `OneToOne.Row`, `(node_id, neighbour, probability)`; plain `Row` is `Rel.Row` in this file. -/
abbrev ERow := OneToOne.Row

/-- How dataset numbers of the functional model appear in the `source_dataset` column and in the `'<sd>'` literals: any
injective map into non-NULL SQL values (e.g. `Val.str` of the dataset's name). -/
structure DsEnc where
  enc : Nat → Val
  nonnull : ∀ d, enc d ≠ .null
  inj : ∀ a b, enc a = enc b → a = b

/-- The `'<sd>'` literals of `duplicate_free_datasets`. -/
def sdsOf (E : DsEnc) (I : Inst) : List Val := I.dupFree.map E.enc

theorem sdsOf_length (E : DsEnc) (I : Inst) : (sdsOf E I).length = I.dupFree.length := List.length_map _

/-- The registered nodes table `(nid, sd)`. -/
def nodesTbl (E : DsEnc) (I : Inst) : List Row := OtoSql.nodeRows I.n fun v => E.enc (I.ds v)

/-- The threshold literal. -/
def thrVal (I : Inst) : Option Val := I.thr.map fun (t : Nat) => Val.int (t : Int)

/-- A row of `__splink__df_neighbours`. -/
def nrow (e : ERow) : Row := [iv e.1, iv e.2.1, iv e.2.2]

/-- `__splink__df_neighbours` holds (exactly, as a set) the rows of `OneToOne.neighbours`. -/
def NbrsTbl (I : Inst) (tbl : List Row) : Prop := ∀ row, row ∈ tbl ↔ ∃ e ∈ neighbours I, row = nrow e

/-- A row of the representatives table entering a pass: three columns in pass 1, four afterwards (`nu v` = the
`needs_updating` flag of the pass before, which no statement of the pass reads). -/
def reprRow (E : DsEnc) (I : Inst) (rep : Reps) (first : Bool) (nu : Nat → Val) (v : Nat) : Row :=
  if first then [iv v, iv (repOf rep v), E.enc (I.ds v)] else [iv v, iv (repOf rep v), E.enc (I.ds v), nu v]

/-- The representatives table holds one row per node `0..n-1` (in any order). -/
def ReprTbl (E : DsEnc) (I : Inst) (rep : Reps) (first : Bool) (nu : Nat → Val) (tbl : List Row) : Prop :=
  tbl.Perm ((List.range I.n).map (reprRow E I rep first nu))

theorem ReprTbl.mem {E : DsEnc} {I : Inst} {rep : Reps} {first : Bool} {nu : Nat → Val} {tbl : List Row}
    (h : ReprTbl E I rep first nu tbl) (row : Row) :
    row ∈ tbl ↔ ∃ v, v < I.n ∧ row = reprRow E I rep first nu v := by
  rw [h.mem_iff, List.mem_map]
  constructor
  · rintro ⟨v, hv, rfl⟩; exact ⟨v, List.mem_range.mp hv, rfl⟩
  · rintro ⟨v, hv, rfl⟩; exact ⟨v, List.mem_range.mpr hv, rfl⟩

theorem reprRow_eq (E : DsEnc) (I : Inst) (rep : Reps) (first : Bool) (nu : Nat → Val) (v : Nat) :
    reprRow E I rep first nu v = iv v :: iv (repOf rep v) :: E.enc (I.ds v) :: if first then [] else [nu v] := by
  cases first <;> rfl

theorem reprRow_length (E : DsEnc) (I : Inst) (rep : Reps) (first : Bool) (nu : Nat → Val) (v : Nat) :
    (reprRow E I rep first nu v).length = if first then 3 else 4 := by
  cases first <;> rfl

theorem reprRow_inj (E : DsEnc) (I : Inst) (rep : Reps) (first : Bool) (nu : Nat → Val) {u v : Nat}
    (h : reprRow E I rep first nu u = reprRow E I rep first nu v) : u = v := by
  rw [reprRow_eq, reprRow_eq] at h
  exact iv_inj.mp (List.head_eq_of_cons_eq h)

theorem ReprTbl.nodup {E : DsEnc} {I : Inst} {rep : Reps} {first : Bool} {nu : Nat → Val} {tbl : List Row}
    (h : ReprTbl E I rep first nu tbl) : tbl.Nodup :=
  h.nodup_iff.mpr (List.Nodup.map_on (fun _ _ _ _ e => reprRow_inj E I rep first nu e) List.nodup_range)

/-! ## The preamble -/

theorem mem_edgeRows {edges : List ERow} {row : Row} :
    row ∈ OtoSql.edgeRows edges ↔ ∃ e ∈ edges, row = nrow e := by
  unfold OtoSql.edgeRows
  rw [List.mem_map]
  constructor
  · rintro ⟨e, he, rfl⟩; exact ⟨e, he, rfl⟩
  · rintro ⟨e, he, rfl⟩; exact ⟨e, he, rfl⟩

/-- `__splink__df_neighbours` (with or without threshold): both orientations of the kept edges. -/
theorem dfNeighbours_mem (I : Inst) (db : Db) (hE : ∀ row, row ∈ db "edges_in" ↔ row ∈ OtoSql.edgeRows I.edges) :
    NbrsTbl I ((match thrVal I with
        | some t => dfNeighbours t
        | none => dfNeighboursNoThr).eval db) := by
  -- either statement is `F` union `F` reversed, for a relation `F` that holds the kept edges
  have both : ∀ F : Rel, (∀ row, row ∈ F.eval db ↔ ∃ e ∈ kept I, row = nrow e) →
      NbrsTbl I ((Rel.union true (Rel.project [Expr.col 0, Expr.col 1, Expr.col 2] F)
        (Rel.project [Expr.col 1, Expr.col 0, Expr.col 2] F)).eval db) := by
    intro F hF row
    simp only [mem_union, mem_project, hF]
    constructor
    · rintro (⟨x, ⟨e, he, rfl⟩, rfl⟩ | ⟨x, ⟨e, he, rfl⟩, rfl⟩)
      · exact ⟨e, (Lemmas.O2O.mem_neighbours I e).mpr (Or.inl he), rfl⟩
      · exact ⟨_, (Lemmas.O2O.mem_neighbours I _).mpr (Or.inr ⟨e, he, rfl⟩), rfl⟩
    · rintro ⟨r, hr, rfl⟩
      rcases (Lemmas.O2O.mem_neighbours I r).mp hr with h | ⟨e, he, rfl⟩
      · exact Or.inl ⟨_, ⟨r, h, rfl⟩, rfl⟩
      · exact Or.inr ⟨_, ⟨e, he, rfl⟩, rfl⟩
  unfold thrVal
  cases hthr : I.thr with
  | none =>
    refine both (Rel.table "edges_in") fun row => ?_
    rw [eval_table, hE, mem_edgeRows]
    constructor
    · rintro ⟨e, he, rfl⟩
      exact ⟨e, (Lemmas.O2O.mem_kept I e).mpr ⟨he, by simp [hthr]⟩, rfl⟩
    · rintro ⟨e, he, rfl⟩
      exact ⟨e, ((Lemmas.O2O.mem_kept I e).mp he).1, rfl⟩
  | some t =>
    refine both (Rel.filter (Expr.cmp Cmp.ge (Expr.col 2) (Expr.lit (Val.int (t : Int)))) (Rel.table "edges_in"))
      fun row => ?_
    rw [mem_filter, eval_table, hE, mem_edgeRows]
    constructor
    · rintro ⟨⟨e, he, rfl⟩, hh⟩
      refine ⟨e, (Lemmas.O2O.mem_kept I e).mpr ⟨he, fun t' ht' => ?_⟩, rfl⟩
      rw [hthr] at ht'; cases ht'
      ev_simp [nrow] at hh
      omega
    · rintro ⟨e, he, rfl⟩
      have hk := (Lemmas.O2O.mem_kept I e).mp he
      refine ⟨⟨e, hk.1, rfl⟩, ?_⟩
      have := hk.2 t hthr
      simp only [Expr.holds, Expr.eval, nrow, List.getD_cons_zero, List.getD_cons_succ, cmp_ge_int]
      simpa using this

/-- `__splink__df_representatives`: every node represents itself. -/
theorem dfRepresentatives_eval (E : DsEnc) (I : Inst) (db : Db) (hN : (db "nodes_in").Perm (nodesTbl E I))
    (nu : Nat → Val) :
    ReprTbl E I (initialReps I) true nu (dfRepresentatives.eval db) := by
  unfold dfRepresentatives ReprTbl
  rw [eval_project, eval_table]
  refine (hN.map _).trans (List.Perm.of_eq ?_)
  unfold nodesTbl OtoSql.nodeRows
  rw [List.map_map]
  apply List.map_congr_left
  intro v hv
  have hv' := List.mem_range.mp hv
  simp [reprRow, Lemmas.O2O.repOf_initial I v hv', Expr.eval, iv]

/-- Everything before the loop: the neighbours table and the initial representatives (input tables in any row order). -/
theorem init_spec (E : DsEnc) (I : Inst) (nu : Nat → Val) (nodes edgeTab : List Row)
    (hN : nodes.Perm (nodesTbl E I)) (hT : edgeTab.Perm (OtoSql.edgeRows I.edges)) :
    NbrsTbl I (OtoSql.init nodes edgeTab (thrVal I)).nbrs ∧
    ReprTbl E I (initialReps I) true nu (OtoSql.init nodes edgeTab (thrVal I)).repr := by
  obtain ⟨hR, hNb, -⟩ := runStmts_meets (preamble (thrVal I))
    [NbrsTbl I, ReprTbl E I (initialReps I) true nu]
    [("nodes_in", fun T => T.Perm (nodesTbl E I)), ("edges_in", fun T => ∀ row, row ∈ T ↔ row ∈ OtoSql.edgeRows I.edges)]
    (OtoSql.baseDb nodes edgeTab) (by simp [preamble])
    ⟨by simpa only [OtoSql.baseDb, set_apply, String.reduceEq, ↓reduceIte] using hN,
     by simpa only [OtoSql.baseDb, set_apply, String.reduceEq, ↓reduceIte] using fun row => hT.mem_iff, trivial⟩
    ⟨fun db ⟨_, hE, _⟩ => dfNeighbours_mem I db hE,
     fun db ⟨_, hN, _⟩ => dfRepresentatives_eval E I db hN nu, trivial⟩
  unfold OtoSql.init
  generalize runStmts _ _ = db at hR hNb ⊢
  exact ⟨hNb, hR⟩

/-! ## One pass: `flags` -/

/-- The `contains_<sd>` columns of representative `g`, one per entry of `duplicate_free_datasets`. -/
def flagVals (I : Inst) (rep : Reps) (g : Nat) : List Val :=
  I.dupFree.map fun d => Val.bool (containsFlag I rep d g)

/-- `__splink__representative_contains_flags_k` holds (as a set) one row `(g, contains_<sd>…)` per representative `g` in
use. -/
def FlagsTbl (I : Inst) (rep : Reps) (T : List Row) : Prop :=
  ∀ row, row ∈ T ↔ ∃ v, v < I.n ∧ row = iv (repOf rep v) :: flagVals I rep (repOf rep v)

theorem flagVals_length (I : Inst) (rep : Reps) (g : Nat) : (flagVals I rep g).length = I.dupFree.length := by
  simp [flagVals]

theorem flagVals_getD (I : Inst) (rep : Reps) (g : Nat) {i : Nat} (hi : i < I.dupFree.length) :
    (flagVals I rep g).getD i .null = .bool (containsFlag I rep (I.dupFree.getD i 0) g) := by
  simp [flagVals, List.getD_eq_getElem?_getD, hi]

theorem maxVals_flag (l : List Val) (hne : l ≠ []) (h01 : ∀ v ∈ l, v = .int 0 ∨ v = .int 1) :
    maxVals l = .int (if Val.int 1 ∈ l then 1 else 0) := by
  induction l with
  | nil => exact absurd rfl hne
  | cons v vs ih =>
    have hv := h01 v List.mem_cons_self
    have h01' : ∀ x ∈ vs, x = .int 0 ∨ x = .int 1 := fun x hx => h01 x (List.mem_cons_of_mem _ hx)
    rw [maxVals_cons]
    by_cases hvs : vs = []
    · subst hvs
      rcases hv with rfl | rfl <;> simp [maxVals, maxStep, aggStep]
    · rw [ih hvs h01']
      by_cases h1 : Val.int 1 ∈ vs
      · rcases hv with rfl | rfl <;> simp [h1, maxStep, aggStep, Val.lt]
      · rcases hv with rfl | rfl <;> simp [h1, maxStep, aggStep, Val.lt]

/-- `max(cast(source_dataset = '<d>' as int))` over the group of representative `rep v`. -/
theorem containsAgg_eval (E : DsEnc) (I : Inst) (rep : Reps) (first : Bool) (nu : Nat → Val) (grp : List Row)
    (v : Nat) (hv : v < I.n)
    (hmem : ∀ y, y ∈ grp ↔ ∃ u, u < I.n ∧ repOf rep u = repOf rep v ∧ y = reprRow E I rep first nu u) (d : Nat) :
    (Agg.max (Expr.boolToInt (Expr.cmp Cmp.eq (Expr.col 2) (Expr.lit (E.enc d))))).eval grp
      = Val.int (if containsFlag I rep d (repOf rep v) then 1 else 0) := by
  simp only [Agg.eval]
  have hval : ∀ u, (Expr.boolToInt (Expr.cmp Cmp.eq (Expr.col 2) (Expr.lit (E.enc d)))).eval
      (reprRow E I rep first nu u) = Val.int (if I.ds u = d then 1 else 0) := by
    intro u
    simp only [Expr.eval, reprRow_eq, List.getD_cons_succ, List.getD_cons_zero, cmp_eq_of_ne_null (E.nonnull _) (E.nonnull _)]
    by_cases h : I.ds u = d
    · simp [h]
    · have : (E.enc (I.ds u) == E.enc d) = false := by
        simpa using fun e => h (E.inj _ _ e)
      simp [h, this]
  rw [maxVals_flag]
  · congr 1
    have : (Val.int 1 ∈ List.map (Expr.boolToInt (Expr.cmp Cmp.eq (Expr.col 2) (Expr.lit (E.enc d)))).eval grp)
        ↔ containsFlag I rep d (repOf rep v) = true := by
      rw [List.mem_map, Lemmas.O2O.containsFlag_iff]
      constructor
      · rintro ⟨y, hy, h1⟩
        obtain ⟨u, hu, hrep, rfl⟩ := (hmem y).mp hy
        rw [hval u] at h1
        by_cases h : I.ds u = d
        · exact ⟨u, hu, hrep, h⟩
        · simp [h] at h1
      · rintro ⟨u, hu, hrep, hds⟩
        exact ⟨_, (hmem _).mpr ⟨u, hu, hrep, rfl⟩, by rw [hval u]; simp [hds]⟩
    by_cases hc : containsFlag I rep d (repOf rep v) = true
    · rw [if_pos (this.mpr hc), if_pos hc]
    · rw [if_neg (fun h => hc (this.mp h)), if_neg hc]
  · intro hnil
    have : reprRow E I rep first nu v ∈ grp := (hmem _).mpr ⟨v, hv, rfl, rfl⟩
    rw [List.map_eq_nil_iff] at hnil
    rw [hnil] at this
    cases this
  · intro x hx
    obtain ⟨y, hy, rfl⟩ := List.mem_map.mp hx
    obtain ⟨u, _, _, rfl⟩ := (hmem y).mp hy
    rw [hval u]
    by_cases h : I.ds u = d
    · right; simp [h]
    · left; simp [h]

/-- `… > 0 as contains_<sd>` on the grouped row `representative, max₁, …, max_k`. -/
theorem containsCols_eval (g : Val) (bs : List Bool) :
    (containsCols bs.length).map (·.eval (g :: bs.map fun b => Val.int (if b then 1 else 0)))
      = bs.map Val.bool := by
  unfold containsCols
  rw [List.map_map, ← map_range_getD bs false Val.bool]
  apply List.map_congr_left
  intro i hi
  have hi' := List.mem_range.mp hi
  simp only [Function.comp, Expr.eval]
  rw [Nat.add_comm 1 i, List.getD_cons_succ]
  simp only [List.getD_eq_getElem?_getD, List.getElem?_map, List.getElem?_eq_getElem hi', Option.map_some,
    Option.getD_some]
  cases bs[i] <;> rfl

theorem flags_mem (E : DsEnc) (I : Inst) (rep : Reps) (first : Bool) (nu : Nat → Val) (db : Db)
    (hR : ReprTbl E I rep first nu (db "reprPrev")) : FlagsTbl I rep ((flags (sdsOf E I)).eval db) := by
  intro row
  unfold flags
  rw [mem_project, eval_groupBy, eval_table]
  have hgrp : ∀ v, v < I.n →
      [Expr.col 1].map (·.eval (reprRow E I rep first nu v)) ++ (containsAggs (sdsOf E I)).map
        (·.eval ((db "reprPrev").filter fun y => [Expr.col 1].map (·.eval y)
          == [Expr.col 1].map (·.eval (reprRow E I rep first nu v))))
      = iv (repOf rep v) :: (I.dupFree.map fun d => containsFlag I rep d (repOf rep v)).map
          fun b => Val.int (if b then 1 else 0) := by
    intro v hv
    simp only [List.map_cons, List.map_nil, Expr.eval, reprRow_eq, List.getD_cons_succ, List.getD_cons_zero,
      List.cons_append, List.nil_append]
    congr 1
    unfold containsAggs sdsOf
    rw [List.map_map, List.map_map, List.map_map]
    apply List.map_congr_left
    intro d _
    simp only [Function.comp]
    apply containsAgg_eval E I rep first nu _ v hv
    intro y
    rw [List.mem_filter, hR.mem]
    constructor
    · rintro ⟨⟨u, hu, rfl⟩, h⟩
      simp only [reprRow_eq, List.getD_cons_succ, List.getD_cons_zero, beq_iff_eq, List.cons.injEq, and_true] at h
      exact ⟨u, hu, iv_inj.mp h, rfl⟩
    · rintro ⟨u, hu, h, rfl⟩
      refine ⟨⟨u, hu, rfl⟩, ?_⟩
      simp only [reprRow_eq, List.getD_cons_succ, List.getD_cons_zero, h, beq_self_eq_true]
  have hproj : ∀ v, (Expr.col 0 :: containsCols (sdsOf E I).length).map
      (·.eval (iv (repOf rep v) :: (I.dupFree.map fun d => containsFlag I rep d (repOf rep v)).map
          fun b => Val.int (if b then 1 else 0)))
      = iv (repOf rep v) :: flagVals I rep (repOf rep v) := by
    intro v
    rw [List.map_cons]
    congr 1
    have hl : (sdsOf E I).length = (I.dupFree.map fun d => containsFlag I rep d (repOf rep v)).length := by
      rw [sdsOf_length, List.length_map]
    rw [hl, containsCols_eval]
    unfold flagVals
    rw [List.map_map]
    rfl
  constructor
  · rintro ⟨x, hx, rfl⟩
    obtain ⟨y, hy, rfl⟩ := (mem_groupRows (by simp)).mp hx
    obtain ⟨v, hv, rfl⟩ := (hR.mem y).mp hy
    refine ⟨v, hv, ?_⟩
    rw [hgrp v hv, hproj v]
  · rintro ⟨v, hv, rfl⟩
    refine ⟨_, (mem_groupRows (by simp)).mpr ⟨_, (hR.mem _).mpr ⟨v, hv, rfl⟩, rfl⟩, ?_⟩
    rw [hgrp v hv, hproj v]

/-! ## One pass: `withFlags` -/

/-- A row of `__splink__df_representatives_with_flags_k`: (node_id, source_dataset, representative, contains_<sd>…). -/
def wfRow (E : DsEnc) (I : Inst) (rep : Reps) (v : Nat) : Row :=
  [iv v, E.enc (I.ds v), iv (repOf rep v)] ++ flagVals I rep (repOf rep v)

/-- `__splink__df_representatives_with_flags_k` holds (as a set) one row per node. -/
def WithFlagsTbl (E : DsEnc) (I : Inst) (rep : Reps) (T : List Row) : Prop :=
  ∀ row, row ∈ T ↔ ∃ v, v < I.n ∧ row = wfRow E I rep v

theorem wfRow_length (E : DsEnc) (I : Inst) (rep : Reps) (v : Nat) :
    (wfRow E I rep v).length = 3 + I.dupFree.length := by
  simp [wfRow, flagVals_length]; omega

theorem wfRow_flag (E : DsEnc) (I : Inst) (rep : Reps) (v i : Nat) :
    (wfRow E I rep v).getD (3 + i) .null = (flagVals I rep (repOf rep v)).getD i .null :=
  getD_append_add _ _ _ rfl i

/-- `cf.*`: the columns `w, w+1, …` of `ra ++ rb` are `rb`. -/
theorem starCols_eval (ra rb : Row) (w k : Nat) (hw : ra.length = w) (hk : rb.length = 1 + k) :
    ((List.range (1 + k)).map fun i => Expr.col (w + i)).map (·.eval (ra ++ rb)) = rb := by
  rw [List.map_map, ← hk]
  have h := map_range_getD rb Val.null id
  simp only [List.map_id] at h
  refine Eq.trans ?_ h
  apply List.map_congr_left
  intro i _
  simp only [Function.comp, Expr.eval, id]
  exact getD_append_add ra rb Val.null hw i

theorem withFlags_mem (E : DsEnc) (I : Inst) (rep : Reps) (first : Bool) (nu : Nat → Val) (db : Db)
    (hR : ReprTbl E I rep first nu (db "reprPrev")) (hF : FlagsTbl I rep (db "flags")) :
    WithFlagsTbl E I rep ((withFlags (if first then 3 else 4) (sdsOf E I).length).eval db) := by
  intro row
  unfold withFlags
  rw [mem_project, eval_join, eval_table, eval_table]
  have hk : ∀ g, (iv g :: flagVals I rep g).length = 1 + (sdsOf E I).length := by
    intro g
    rw [List.length_cons, flagVals_length, sdsOf_length]
    omega
  have hrow : ∀ v, ([Expr.col 0, Expr.col 2] ++ (List.range (1 + (sdsOf E I).length)).map
        fun i => Expr.col ((if first then 3 else 4) + i)).map
      (·.eval (reprRow E I rep first nu v ++ iv (repOf rep v) :: flagVals I rep (repOf rep v)))
      = wfRow E I rep v := by
    intro v
    rw [List.map_append, starCols_eval _ _ _ _ (reprRow_length E I rep first nu v) (hk _)]
    simp only [List.map_cons, List.map_nil, Expr.eval, reprRow_eq, List.cons_append, List.getD_cons_zero,
      List.getD_cons_succ]
    rfl
  have hon : ∀ v u, (Expr.cmp Cmp.eq (Expr.col 1) (Expr.col (if first then 3 else 4))).holds
      (reprRow E I rep first nu v ++ iv (repOf rep u) :: flagVals I rep (repOf rep u)) = true ↔
        repOf rep v = repOf rep u :=
    fun v u => holds_eq_cols_nat_iff (by rw [reprRow_eq]; rfl) (getD_append_at _ _ _ (reprRow_length E I rep first nu v))
  constructor
  · rintro ⟨x, hx, rfl⟩
    obtain ⟨ra, hra, rb, hrb, h, rfl⟩ := mem_joinRows_inner.mp hx
    obtain ⟨v, hv, rfl⟩ := (hR.mem ra).mp hra
    obtain ⟨u, hu, rfl⟩ := (hF rb).mp hrb
    rw [← (hon v u).mp h]
    exact ⟨v, hv, hrow v⟩
  · rintro ⟨v, hv, rfl⟩
    exact ⟨_, mem_joinRows_inner.mpr ⟨_, (hR.mem _).mpr ⟨v, hv, rfl⟩, _, (hF _).mpr ⟨v, hv, rfl⟩, (hon v v).mpr rfl, rfl⟩,
      (hrow v).symm⟩

/-! ## One pass: `ranked` -/

/-- A row of the two joins of `__splink__df_ranked_k`: `neighbours` (3 columns) ++ `l` ++ `r` (3 + k columns each). -/
def jrow (E : DsEnc) (I : Inst) (rep : Reps) (e : ERow) : Row :=
  (nrow e ++ wfRow E I rep e.1) ++ wfRow E I rep e.2.1

theorem nrow_wfRow_length (E : DsEnc) (I : Inst) (rep : Reps) (e : ERow) (v : Nat) :
    (nrow e ++ wfRow E I rep v).length = 6 + I.dupFree.length := by
  rw [List.length_append, wfRow_length, nrow, List.length_cons, List.length_cons, List.length_singleton]
  omega

theorem jrow_length (E : DsEnc) (I : Inst) (rep : Reps) (e : ERow) :
    (jrow E I rep e).length = 9 + 2 * I.dupFree.length := by
  rw [jrow, List.length_append, nrow_wfRow_length, wfRow_length]
  omega

/-- `l.contains_<sd_i>` -/
theorem jrow_flagL (E : DsEnc) (I : Inst) (rep : Reps) (e : ERow) (i : Nat) (hi : i < I.dupFree.length) :
    (jrow E I rep e).getD (6 + i) .null = (flagVals I rep (repOf rep e.1)).getD i .null := by
  rw [jrow, getD_append_lt _ _ _ (by rw [nrow_wfRow_length]; omega), show 6 + i = 3 + (3 + i) by omega,
    getD_append_add _ _ _ (n := 3) rfl, wfRow_flag]

/-- `r.representative` -/
theorem jrow_repR (E : DsEnc) (I : Inst) (rep : Reps) (e : ERow) (t : List Val) :
    (jrow E I rep e ++ t).getD (8 + I.dupFree.length) .null = iv (repOf rep e.2.1) := by
  rw [jrow, List.append_assoc, show 8 + I.dupFree.length = 6 + I.dupFree.length + 2 by omega,
    getD_append_add _ _ _ (nrow_wfRow_length E I rep e e.1) 2]
  rfl

/-- `r.contains_<sd_i>` -/
theorem jrow_flagR (E : DsEnc) (I : Inst) (rep : Reps) (e : ERow) (i : Nat) :
    (jrow E I rep e).getD (9 + I.dupFree.length + i) .null = (flagVals I rep (repOf rep e.2.1)).getD i .null := by
  rw [jrow, show 9 + I.dupFree.length + i = 6 + I.dupFree.length + (3 + i) by omega,
    getD_append_add _ _ _ (nrow_wfRow_length E I rep e e.1) _, wfRow_flag]

/-- The candidate test of the functional model on a row without its position. -/
def candE (I : Inst) (rep : Reps) (e : ERow) : Bool := isCand I rep (e, 0)

theorem candE_iff (I : Inst) (rep : Reps) (e : ERow) :
    candE I rep e = true ↔ e.1 < I.n ∧ e.2.1 < I.n ∧ repOf rep e.1 ≠ repOf rep e.2.1 ∧
      conflict I rep (repOf rep e.1) (repOf rep e.2.1) = false :=
  Lemmas.O2O.isCand_iff I rep (e, 0)

/-- `duplicate_criteria` on a joined row is the model's `conflict` of the two representatives. -/
theorem dupCriteria_eval (E : DsEnc) (I : Inst) (rep : Reps) (e : ERow) :
    (dupCriteria I.dupFree.length).eval (jrow E I rep e)
      = .bool (conflict I rep (repOf rep e.1) (repOf rep e.2.1)) := by
  unfold dupCriteria
  rw [orJoin_eval (jrow E I rep e) _ (I.dupFree.map fun d =>
    containsFlag I rep d (repOf rep e.1) && containsFlag I rep d (repOf rep e.2.1))]
  · congr 1
    unfold conflict
    rw [List.any_map]
    rfl
  · -- column by column: the `i`-th pair of flags belongs to the `i`-th duplicate-free dataset
    rw [List.map_map, List.map_map, ← map_range_getD I.dupFree 0]
    apply List.map_congr_left
    intro i hi
    have hi' := List.mem_range.mp hi
    simp only [Function.comp, Expr.eval]
    rw [jrow_flagL E I rep e i hi', jrow_flagR E I rep e i, flagVals_getD I rep _ hi', flagVals_getD I rep _ hi',
      and3_bool]

/-- The `where` clause of `__splink__df_ranked_k` on a joined row of two nodes is the model's candidate test. -/
theorem rankedWhere_holds (E : DsEnc) (I : Inst) (rep : Reps) (e : ERow) (h1 : e.1 < I.n) (h2 : e.2.1 < I.n) :
    (Expr.and (Expr.cmp Cmp.ne (Expr.col 5) (Expr.col (8 + I.dupFree.length)))
      (Expr.not (dupCriteria I.dupFree.length))).holds (jrow E I rep e) = candE I rep e := by
  have h5 : (jrow E I rep e).getD 5 .null = iv (repOf rep e.1) := rfl
  have h8 := jrow_repR E I rep e []
  rw [List.append_nil] at h8
  rw [Bool.eq_iff_iff, holds_and, holds_not_of_bool (dupCriteria_eval E I rep e), Bool.and_eq_true,
    holds_ne_cols_nat_iff h5 h8, Bool.not_eq_true', candE_iff]
  exact ⟨fun ⟨a, b⟩ => ⟨h1, h2, a, b⟩, fun ⟨_, _, a, b⟩ => ⟨a, b⟩⟩

/-- The `from … where` of `__splink__df_ranked_k` (`… as l on neighbours.node_id = l.node_id … as r on
neighbours.neighbour = r.node_id where …`): the candidate rows, each with the flags of both representatives. -/
theorem rankedFrom_mem (E : DsEnc) (I : Inst) (rep : Reps) (db : Db) (hN : NbrsTbl I (db "nbrs"))
    (hW : WithFlagsTbl E I rep (db "withFlags")) (row : Row) :
    row ∈ (Rel.filter (Expr.and (Expr.cmp Cmp.ne (Expr.col 5) (Expr.col (8 + I.dupFree.length)))
        (Expr.not (dupCriteria I.dupFree.length)))
      (Rel.join false (Expr.cmp Cmp.eq (Expr.col 1) (Expr.col (6 + I.dupFree.length)))
        (Rel.join false (Expr.cmp Cmp.eq (Expr.col 0) (Expr.col 3)) (Rel.table "nbrs") (Rel.table "withFlags")
          (3 + I.dupFree.length)) (Rel.table "withFlags") (3 + I.dupFree.length))).eval db ↔
      ∃ e ∈ neighbours I, candE I rep e = true ∧ row = jrow E I rep e := by
  rw [mem_filter, eval_join, eval_join, eval_table, eval_table, mem_joinRows_inner]
  have on1 : ∀ e v, (Expr.cmp Cmp.eq (Expr.col 0) (Expr.col 3)).holds (nrow e ++ wfRow E I rep v) = true ↔ e.1 = v :=
    fun e v => holds_eq_cols_nat_iff rfl rfl
  have on2 : ∀ e v v', (Expr.cmp Cmp.eq (Expr.col 1) (Expr.col (6 + I.dupFree.length))).holds
      ((nrow e ++ wfRow E I rep v) ++ wfRow E I rep v') = true ↔ e.2.1 = v' :=
    fun e v v' => holds_eq_cols_nat_iff rfl (getD_append_at _ _ _ (nrow_wfRow_length E I rep e v))
  constructor
  · rintro ⟨⟨x, hx, rb, hrb, hon2, rfl⟩, hh⟩
    obtain ⟨ra, hra, rm, hrm, hon1, rfl⟩ := mem_joinRows_inner.mp hx
    obtain ⟨e, he, rfl⟩ := (hN ra).mp hra
    obtain ⟨v1, hv1, rfl⟩ := (hW rm).mp hrm
    obtain ⟨v2, hv2, rfl⟩ := (hW rb).mp hrb
    obtain rfl := (on1 e v1).mp hon1
    obtain rfl := (on2 e _ v2).mp hon2
    exact ⟨e, he, (rankedWhere_holds E I rep e hv1 hv2).symm.trans hh, rfl⟩
  · rintro ⟨e, he, hc, rfl⟩
    obtain ⟨h1, h2, _⟩ := (candE_iff I rep e).mp hc
    exact ⟨⟨nrow e ++ wfRow E I rep e.1,
      mem_joinRows_inner.mpr ⟨nrow e, (hN _).mpr ⟨e, he, rfl⟩, wfRow E I rep e.1, (hW _).mpr ⟨_, h1, rfl⟩,
        (on1 e _).mpr rfl, rfl⟩,
      wfRow E I rep e.2.1, (hW _).mpr ⟨_, h2, rfl⟩, (on2 e _ _).mpr rfl, rfl⟩,
      (rankedWhere_holds E I rep e h1 h2).trans hc⟩

/-- No candidate row of the same `l.representative` partition has a strictly larger probability. -/
def bestL (I : Inst) (rep : Reps) (e : ERow) : Prop :=
  ∀ e' ∈ neighbours I, candE I rep e' = true → repOf rep e'.1 = repOf rep e.1 → ¬ e.2.2 < e'.2.2

/-- No candidate row of the same `r.representative` partition has a strictly larger probability. -/
def bestR (I : Inst) (rep : Reps) (e : ERow) : Prop :=
  ∀ e' ∈ neighbours I, candE I rep e' = true → repOf rep e'.2.1 = repOf rep e.2.1 → ¬ e.2.2 < e'.2.2

/-- `__splink__df_ranked_k` holds (as a set) one row per candidate row, with `rank_l = 1 + cl`, `rank_r = 1 + cr` where
`cl = 0` iff no candidate row of the same `l.representative` has a strictly larger probability (`cr`: same for
`r.representative`). -/
def RankedTbl (I : Inst) (rep : Reps) (T : List Row) : Prop :=
  ∃ cl cr : ERow → Nat,
    (∀ e ∈ neighbours I, candE I rep e = true → ((cl e = 0 ↔ bestL I rep e) ∧ (cr e = 0 ↔ bestR I rep e))) ∧
    ∀ row, row ∈ T ↔ ∃ e ∈ neighbours I, candE I rep e = true ∧
      row = [iv e.1, iv e.2.1, Val.int ((1 + cl e : Nat) : Int), Val.int ((1 + cr e : Nat) : Int)]

/-- Valid for ALL inputs: with ties, every row of maximal probability of a partition has `cl = 0` (`Rel.rowNumber`). -/
theorem ranked_mem (E : DsEnc) (I : Inst) (rep : Reps) (db : Db) (hN : NbrsTbl I (db "nbrs"))
    (hW : WithFlagsTbl E I rep (db "withFlags")) : RankedTbl I rep ((ranked (sdsOf E I).length).eval db) := by
  obtain ⟨cl, hcl, hF1⟩ := rowNumber_desc_spec db _ 5 2 _ _ _ (fun e => repOf rep e.1) (fun e => e.2.2)
    (rankedFrom_mem E I rep db hN hW) (fun _ => rfl) (fun _ => rfl)
  obtain ⟨cr, hcr, hF2⟩ := rowNumber_desc_spec db _ (8 + I.dupFree.length) 2 _ _ _ (fun e => repOf rep e.2.1)
    (fun e => e.2.2) hF1 (fun e => jrow_repR E I rep e _) (fun _ => rfl)
  have hproj : ∀ e (a b : Val), [Expr.col 0, Expr.col 1, Expr.col (9 + 2 * I.dupFree.length),
      Expr.col (10 + 2 * I.dupFree.length)].map (·.eval ((jrow E I rep e ++ [a]) ++ [b]))
      = [iv e.1, iv e.2.1, a, b] := by
    intro e a b
    have hlen : (jrow E I rep e ++ [a]).length = 10 + 2 * I.dupFree.length := by
      rw [List.length_append, jrow_length, List.length_singleton]; omega
    simp only [List.map_cons, List.map_nil, Expr.eval]
    rw [getD_append_at _ _ _ hlen, List.append_assoc, getD_append_at _ _ _ (jrow_length E I rep e)]
    rfl
  refine ⟨cl, cr, fun e he hc => ⟨hcl e he hc, hcr e he hc⟩, fun row => ?_⟩
  unfold ranked
  rw [sdsOf_length, mem_project]
  simp only [hF2]
  constructor
  · rintro ⟨x, ⟨e, he, hc, rfl⟩, rfl⟩
    exact ⟨e, he, hc, hproj e _ _⟩
  · rintro ⟨e, he, hc, rfl⟩
    exact ⟨_, ⟨e, he, hc, rfl⟩, (hproj e _ _).symm⟩

/-! ## One pass: `accepted` -/

/-- `__splink__df_neighbours_k` holds (as a set) the columns `(node_id, neighbour)` of the rows `acc`. -/
def AcceptedTbl (acc : List IRow) (T : List Row) : Prop :=
  ∀ row, row ∈ T ↔ ∃ x ∈ acc, row = [iv (node x), iv (nbr x)]

/-- `where rank_l = 1 and rank_r = 1`: the candidate rows that no candidate row of either partition beats. -/
theorem accepted_mem (I : Inst) (rep : Reps) (db : Db) (acc : List IRow)
    (hacc : ∀ x, x ∈ acc ↔ x ∈ rows I ∧ candE I rep x.1 = true ∧ bestL I rep x.1 ∧ bestR I rep x.1)
    (hK : RankedTbl I rep (db "ranked")) : AcceptedTbl acc (Gen.OtoSql.accepted.eval db) := by
  intro row
  obtain ⟨cl, cr, hbest, hR⟩ := hK
  have hw : ∀ (a b : Val) (m n : Nat), (Expr.and (Expr.cmp Cmp.eq (Expr.col 2) (Expr.lit (Val.int 1)))
      (Expr.cmp Cmp.eq (Expr.col 3) (Expr.lit (Val.int 1)))).holds
        [a, b, Val.int ((1 + m : Nat) : Int), Val.int ((1 + n : Nat) : Int)] = true ↔ m = 0 ∧ n = 0 := by
    intro a b m n
    simp only [Expr.holds, Expr.eval, List.getD_cons_zero, List.getD_cons_succ, Lemmas.Rel.cmp_eq_int, and3_bool,
      beq_iff_eq, Val.bool.injEq, Bool.and_eq_true, decide_eq_true_eq]
    omega
  unfold Gen.OtoSql.accepted
  rw [mem_project]
  simp only [mem_filter, eval_table, hR]
  constructor
  · rintro ⟨x, ⟨⟨e, he, hc, rfl⟩, hh⟩, rfl⟩
    obtain ⟨h1, h2⟩ := (hw _ _ _ _).mp hh
    obtain ⟨j, hj⟩ := Lemmas.O2O.exists_mem_indexFrom (neighbours I) 0 e he
    exact ⟨(e, j), (hacc _).mpr ⟨hj, hc, (hbest e he hc).1.mp h1, (hbest e he hc).2.mp h2⟩, rfl⟩
  · rintro ⟨x, hx, rfl⟩
    obtain ⟨hxr, hc, hbl, hbr⟩ := (hacc x).mp hx
    have hxn := Lemmas.O2O.mem_indexFrom_fst _ _ _ hxr
    have hb := hbest x.1 hxn hc
    exact ⟨_, ⟨⟨x.1, hxn, hc, rfl⟩, (hw _ _ _ _).mpr ⟨hb.1.mpr hbl, hb.2.mpr hbr⟩⟩, rfl⟩

theorem forall_cands (I : Inst) (rep : Reps) (P : ERow → Prop) :
    (∀ y ∈ cands I rep, P y.1) ↔ ∀ e ∈ neighbours I, candE I rep e = true → P e := by
  constructor
  · intro h e he hc
    obtain ⟨j, hj⟩ := Lemmas.O2O.exists_mem_indexFrom (neighbours I) 0 e he
    exact h (e, j) ((Lemmas.O2O.mem_cands I rep _).mpr ⟨hj, hc⟩)
  · intro h y hy
    obtain ⟨hyr, hyc⟩ := (Lemmas.O2O.mem_cands I rep y).mp hy
    exact h y.1 (Lemmas.O2O.mem_indexFrom_fst _ _ _ hyr) hyc

/-- On a tie-free input the rows the SQL accepts are the rows the functional model accepts — whatever the oracles. -/
theorem accepted_iff_model (I : Inst) (oL oR : Oracle) (k : Nat) (rep : Reps) (htf : TieFree I) (x : IRow) :
    x ∈ OneToOne.accepted I oL oR k rep ↔
      x ∈ rows I ∧ candE I rep x.1 = true ∧ bestL I rep x.1 ∧ bestR I rep x.1 := by
  rw [Lemmas.O2O.mem_accepted_tie_free I oL oR k rep htf, Lemmas.O2O.mem_cands, and_assoc]
  exact and_congr_right fun _ => and_congr_right fun _ => and_congr
    (forall_cands I rep fun e => repOf rep e.1 = repOf rep x.1.1 → ¬ x.1.2.2 < e.2.2)
    (forall_cands I rep fun e => repOf rep e.2.1 = repOf rep x.1.2.1 → ¬ x.1.2.2 < e.2.2)

/-! ## One pass: `r`, `reprNext`, the exit count -/

/-- The sub-select `source` of `r`: `(node_id, representative of the accepted neighbour)` rows and the table itself. -/
theorem rSource_mem (E : DsEnc) (I : Inst) (rep : Reps) (first : Bool) (nu : Nat → Val) (db : Db) (acc : List IRow)
    (bw : Nat) (hR : ReprTbl E I rep first nu (db "reprPrev"))
    (hA : AcceptedTbl acc (db "accepted"))
    (hlt : ∀ x ∈ acc, nbr x < I.n) (row : Row) :
    row ∈ (Rel.union true (Rel.project [Expr.col 0, Expr.col 3] (Rel.join true (Expr.cmp Cmp.eq (Expr.col 1) (Expr.col 2))
        (Rel.table "accepted") (Rel.table "reprPrev") bw)) (Rel.project [Expr.col 0, Expr.col 1] (Rel.table "reprPrev"))).eval db ↔
      (∃ x ∈ acc, row = [iv (node x), iv (repOf rep (nbr x))]) ∨ ∃ v, v < I.n ∧ row = [iv v, iv (repOf rep v)] := by
  have hon : ∀ (x : IRow) u, (Expr.cmp Cmp.eq (Expr.col 1) (Expr.col 2)).holds
      ([iv (node x), iv (nbr x)] ++ reprRow E I rep first nu u) = true ↔ nbr x = u :=
    fun x u => holds_eq_cols_nat_iff rfl (by rw [reprRow_eq]; rfl)
  have hp1 : ∀ (a b : Val) u, [Expr.col 0, Expr.col 3].map (·.eval ([a, b] ++ reprRow E I rep first nu u))
      = [a, iv (repOf rep u)] := fun a b u => by rw [reprRow_eq]; rfl
  have hp2 : ∀ v, [Expr.col 0, Expr.col 1].map (·.eval (reprRow E I rep first nu v)) = [iv v, iv (repOf rep v)] :=
    fun v => by rw [reprRow_eq]; rfl
  have hmatch : ∀ ra ∈ db "accepted", ∃ rb ∈ db "reprPrev",
      (Expr.cmp Cmp.eq (Expr.col 1) (Expr.col 2)).holds (ra ++ rb) = true := by
    intro ra hra
    obtain ⟨x, hx, rfl⟩ := (hA ra).mp hra
    exact ⟨_, (hR.mem _).mpr ⟨nbr x, hlt x hx, rfl⟩, (hon x _).mpr rfl⟩
  rw [mem_union, mem_project, mem_project, eval_join, eval_table, eval_table]
  simp only [mem_joinRows_left_of_match hmatch]
  constructor
  · rintro (⟨y, ⟨ra, hra, rb, hrb, h, rfl⟩, rfl⟩ | ⟨y, hy, rfl⟩)
    · obtain ⟨x, hx, rfl⟩ := (hA ra).mp hra
      obtain ⟨u, hu, rfl⟩ := (hR.mem rb).mp hrb
      obtain rfl := (hon x u).mp h
      exact Or.inl ⟨x, hx, hp1 _ _ _⟩
    · obtain ⟨v, hv, rfl⟩ := (hR.mem y).mp hy
      exact Or.inr ⟨v, hv, hp2 v⟩
  · rintro (⟨x, hx, rfl⟩ | ⟨v, hv, rfl⟩)
    · exact Or.inl ⟨_, ⟨_, (hA _).mpr ⟨x, hx, rfl⟩, _, (hR.mem _).mpr ⟨_, hlt x hx, rfl⟩, (hon x _).mpr rfl, rfl⟩,
        (hp1 _ _ _).symm⟩
    · exact Or.inr ⟨_, (hR.mem _).mpr ⟨v, hv, rfl⟩, (hp2 v).symm⟩

/-- `r`: every node with the smallest of its own representative and those of its accepted neighbours. -/
theorem r_eval (E : DsEnc) (I : Inst) (rep : Reps) (first : Bool) (nu : Nat → Val) (db : Db) (acc : List IRow)
    (hR : ReprTbl E I rep first nu (db "reprPrev"))
    (hA : AcceptedTbl acc (db "accepted"))
    (hlt : ∀ x ∈ acc, nbr x < I.n ∧ node x < I.n) :
    ((if first then rFirst else rLater).eval db).Perm
      ((List.range I.n).map fun v => [iv v, iv (newRep rep acc v)]) := by
  -- `rFirst` and `rLater` differ only in `bw`, the width of the left join's NULL padding, which no row receives
  have key : ∀ bw, ((Rel.groupBy [Expr.col 0] [Agg.min (Expr.col 1)]
      (Rel.union true (Rel.project [Expr.col 0, Expr.col 3] (Rel.join true (Expr.cmp Cmp.eq (Expr.col 1) (Expr.col 2))
        (Rel.table "accepted") (Rel.table "reprPrev") bw))
        (Rel.project [Expr.col 0, Expr.col 1] (Rel.table "reprPrev")))).eval db).Perm
      ((List.range I.n).map fun v => [iv v, iv (newRep rep acc v)]) := by
    intro bw
    have hsrc := rSource_mem E I rep first nu db acc bw hR hA (fun x hx => (hlt x hx).1)
    rw [eval_groupBy]
    unfold newRep
    apply groupMin_perm _ 1 (List.range I.n) List.nodup_range
      (fun v => (acc.filter fun x => node x == v).map fun x => repOf rep (nbr x)) (fun v => repOf rep v)
    · intro row hrow
      rcases (hsrc row).mp hrow with ⟨x, hx, rfl⟩ | ⟨v, hv, rfl⟩
      · exact ⟨node x, List.mem_range.mpr (hlt x hx).2, by simp⟩
      · exact ⟨v, List.mem_range.mpr hv, by simp⟩
    · intro v hv val
      have hv' := List.mem_range.mp hv
      constructor
      · rintro ⟨row, hrow, h0, rfl⟩
        rcases (hsrc row).mp hrow with ⟨x, hx, rfl⟩ | ⟨u, hu, rfl⟩
        · right
          simp only [List.getD_cons_zero] at h0
          have hxv : node x = v := iv_inj.mp h0
          refine ⟨repOf rep (nbr x), List.mem_map.mpr ⟨x, List.mem_filter.mpr ⟨hx, by simp [hxv]⟩, rfl⟩, by simp⟩
        · left
          simp only [List.getD_cons_zero] at h0
          have huv : u = v := iv_inj.mp h0
          subst huv
          simp
      · rintro (rfl | ⟨y, hy, rfl⟩)
        · exact ⟨_, (hsrc _).mpr (Or.inr ⟨v, hv', rfl⟩), by simp, by simp⟩
        · obtain ⟨x, hx, rfl⟩ := List.mem_map.mp hy
          obtain ⟨hxa, hxv⟩ := List.mem_filter.mp hx
          have hxv' : node x = v := by simpa using hxv
          exact ⟨_, (hsrc _).mpr (Or.inl ⟨x, hxa, rfl⟩), by simp [hxv'], by simp⟩
  cases first
  · exact key 4
  · exact key 3

/-- The `needs_updating` column after a pass from `rep` to `rep'`. -/
def nuOf (rep rep' : Reps) : Nat → Val := fun v => Val.bool (repOf rep' v != repOf rep v)

/-- `__splink__df_representatives_k`: the new representative, the dataset, and whether the representative changed. -/
theorem reprNext_eval (E : DsEnc) (I : Inst) (rep : Reps) (first : Bool) (nu : Nat → Val) (db : Db)
    (rep' : Reps) (hR : ReprTbl E I rep first nu (db "reprPrev"))
    (hr : (db "r").Perm ((List.range I.n).map fun v => [iv v, iv (repOf rep' v)])) :
    ReprTbl E I rep' false (nuOf rep rep') ((if first then reprNextFirst else reprNextLater).eval db) := by
  -- the two variants differ only in `bw`, the width of `reprPrev`, which an inner join does not use
  have key : ∀ bw, ((Rel.project [Expr.col 0, Expr.col 1, Expr.col 4, Expr.cmp Cmp.ne (Expr.col 1) (Expr.col 3)]
      (Rel.join false (Expr.cmp Cmp.eq (Expr.col 0) (Expr.col 2)) (Rel.table "r") (Rel.table "reprPrev") bw)).eval db).Perm
      ((List.range I.n).map (reprRow E I rep' false (nuOf rep rep'))) := by
    intro bw
    rw [eval_project, eval_join, eval_table, eval_table]
    have hon : ∀ v u, (Expr.cmp Cmp.eq (Expr.col 0) (Expr.col 2)).holds
        ([iv v, iv (repOf rep' v)] ++ reprRow E I rep first nu u) = true ↔ v = u :=
      fun v u => holds_eq_cols_nat_iff rfl (by rw [reprRow_eq]; rfl)
    have hj := joinRows_lookup (List.range I.n) (fun v => [iv v, iv (repOf rep' v)]) (reprRow E I rep first nu) false
      (Expr.cmp Cmp.eq (Expr.col 0) (Expr.col 2)) (db "r") (db "reprPrev") bw hr hR.nodup fun v hv =>
        ⟨(hR.mem _).mpr ⟨v, List.mem_range.mp hv, rfl⟩, (hon v v).mpr rfl, fun y hy h => by
          obtain ⟨u, _, rfl⟩ := (hR.mem y).mp hy
          rw [(hon v u).mp h]⟩
    refine (hj.map _).trans (List.Perm.of_eq ?_)
    rw [List.map_map]
    apply List.map_congr_left
    intro v _
    simp only [Function.comp, List.map_cons, List.map_nil, Expr.eval, List.cons_append, List.nil_append,
      List.getD_cons_zero, List.getD_cons_succ, reprRow_eq, nuOf, Bool.false_eq_true, if_false]
    simp only [iv, Lemmas.Rel.cmp_ne_int, ne_cast]
  cases first
  · exact key 4
  · exact key 3

/-- `count_of_nodes_needing_updating`. -/
theorem rootRows_count (E : DsEnc) (I : Inst) (rep rep' : Reps) (db : Db)
    (hN : ReprTbl E I rep' false (nuOf rep rep') (db "reprNext")) :
    OtoSql.countOf (rootRows.eval db) = updCount I rep rep' := by
  unfold rootRows updCount
  rw [eval_groupBy, eval_filter, eval_table]
  simp only [groupRows, List.isEmpty_nil, if_true, List.map_cons, List.map_nil, Agg.eval, OtoSql.countOf,
    Int.toNat_natCast]
  rw [(hN.filter _).length_eq, List.filter_map, List.length_map]
  congr 1
  apply List.filter_congr
  intro v _
  exact bool_beq_true _

/-! ## One pass of the SQL loop body -/

/-- **One pass**, for ALL inputs (ties included).  Running the statements of a pass on the tables of a state `rep` gives
every node `v` the representative `newRep rep acc v`, where `acc` holds exactly the candidate rows that no candidate row
of either partition beats (with ties, `Rel.rowNumber` accepts every row of maximal probability), and counts the nodes
whose representative changed.  On tie-free inputs `OneToOne.accepted` is such a list (`accepted_iff_model`). -/
theorem pass_spec (E : DsEnc) (I : Inst) (rep : Reps) (first : Bool) (nu : Nat → Val) (s : OtoSql.LoopSt)
    (hn : NbrsTbl I s.nbrs) (hr : ReprTbl E I rep first nu s.repr) (acc : List IRow)
    (hacc : ∀ x, x ∈ acc ↔ x ∈ rows I ∧ candE I rep x.1 = true ∧ bestL I rep x.1 ∧ bestR I rep x.1)
    (rep' : Reps) (hrep' : rep' = (List.range I.n).map (newRep rep acc)) :
    NbrsTbl I (OtoSql.pass first (sdsOf E I) s).1.nbrs ∧
    ReprTbl E I rep' false (nuOf rep rep') (OtoSql.pass first (sdsOf E I) s).1.repr ∧
    (OtoSql.pass first (sdsOf E I) s).2 = updCount I rep rep' := by
  have hlt : ∀ x ∈ acc, nbr x < I.n ∧ node x < I.n := fun x hx =>
    have := (candE_iff I rep x.1).mp ((hacc x).mp hx).2.1
    ⟨this.2.1, this.1⟩
  obtain ⟨hC, hX, -⟩ := runStmts_meets (body first (sdsOf E I))
    [FlagsTbl I rep, WithFlagsTbl E I rep, RankedTbl I rep, AcceptedTbl acc,
     fun T => T.Perm ((List.range I.n).map fun v => [iv v, iv (repOf rep' v)]),
     ReprTbl E I rep' false (nuOf rep rep'),
     fun T => OtoSql.countOf T = updCount I rep rep']
    [("reprPrev", ReprTbl E I rep first nu), ("nbrs", NbrsTbl I)]
    (Db.set (Db.set OtoSql.emptyDb "nbrs" s.nbrs) "reprPrev" s.repr) (by simp [body])
    ⟨by simpa only [set_apply, String.reduceEq, ↓reduceIte] using hr,
     by simpa only [set_apply, String.reduceEq, ↓reduceIte] using hn, trivial⟩
    ⟨fun db ⟨hR, _⟩ => flags_mem E I rep first nu db hR,
     fun db ⟨hF, hR, _⟩ => withFlags_mem E I rep first nu db hR hF,
     fun db ⟨hW, _, _, hN, _⟩ => ranked_mem E I rep db hN hW,
     fun db ⟨hK, _⟩ => accepted_mem I rep db acc hacc hK,
     fun db ⟨hA, _, _, _, hR, _⟩ => (r_eval E I rep first nu db acc hR hA hlt).trans (List.Perm.of_eq
      (List.map_congr_left fun v hv => by rw [hrep', Lemmas.O2O.repOf_map_range _ _ v (List.mem_range.mp hv)])),
     fun db ⟨hr, _, _, _, _, hR, _⟩ => reprNext_eval E I rep first nu db rep' hR hr,
     fun db ⟨hX, _⟩ => rootRows_count E I rep rep' db hX, trivial⟩
  unfold OtoSql.pass OtoSql.passDb
  generalize runStmts _ _ = db at hC hX ⊢
  exact ⟨hn, hX, hC⟩

/-! ## The final statement -/

/-- A result row `(node_id, cluster_id)`. -/
def pairRow (p : Nat × Nat) : Row := [Val.int (p.1 : Int), Val.int (p.2 : Int)]

/-- `__splink__clustering_output_final`. -/
theorem output_spec (E : DsEnc) (I : Inst) (rep : Reps) (nu : Nat → Val) (s : OtoSql.LoopSt)
    (hr : ReprTbl E I rep false nu s.repr) :
    (OtoSql.output s).Perm ((OneToOne.output I rep).map pairRow) := by
  unfold OtoSql.output finalStmt
  rw [eval_project, eval_table, set_same]
  refine (hr.map _).trans (List.Perm.of_eq ?_)
  unfold OneToOne.output
  rw [List.map_map, List.map_map]
  apply List.map_congr_left
  intro v _
  simp [reprRow, pairRow, Expr.eval, iv]

theorem pairRow_inj {p q : Nat × Nat} (h : pairRow p = pairRow q) : p = q := CCSql.pairRow_inj h

end SplinkVerif.Lemmas.OtoSql
