import SplinkVerif.Lemmas.ScoreCore
import Mathlib.Analysis.SpecialFunctions.Log.Base
import Mathlib.Analysis.SpecialFunctions.Pow.Real
/-!
# `Model/Score.lean` at `ℝ`

* `instNumReal`: the `Num` instance at `ℝ` (`pow = Real.rpow`, `log2 = Real.logb 2`) and the simp lemmas that
  unfold its fields to the ordinary real operations;
* the score at `ℝ`: the product of finite terms, its `log2` as a sum, the probability of a finite factor and the
  map `x ↦ x / (1 + x)` from odds to probability;
* `tfDivisor_zero`, `tfDivisor_of_ne_zero`, `levelTfAdj_active`: what each CASE shape of the TF divisor computes, the
  TF factor of a level that has one;
* `thresholdAsWeight_prob`, `keep_fin`: a threshold is applied in its weight form.
-/
namespace SplinkVerif.Lemmas.Score
open SplinkVerif SplinkVerif.Score

/-! ## The instance at `ℝ` -/

noncomputable instance instNumReal : Num ℝ where
  zero := 0
  one := 1
  ofNat := fun n => (n : ℝ)
  add := (· + ·)
  sub := (· - ·)
  mul := (· * ·)
  div := (· / ·)
  pow := Real.rpow
  log2 := Real.logb 2
  ge := fun a b => decide (a ≥ b)
  gt := fun a b => decide (a > b)
  isZero := fun a => decide (a = 0)

@[simp] theorem num_zero : (Num.zero : ℝ) = 0 := rfl
@[simp] theorem num_one : (Num.one : ℝ) = 1 := rfl
@[simp] theorem num_ofNat (n : ℕ) : (Num.ofNat n : ℝ) = (n : ℝ) := rfl
@[simp] theorem num_add (a b : ℝ) : Num.add a b = a + b := rfl
@[simp] theorem num_sub (a b : ℝ) : Num.sub a b = a - b := rfl
@[simp] theorem num_mul (a b : ℝ) : Num.mul a b = a * b := rfl
@[simp] theorem num_div (a b : ℝ) : Num.div a b = a / b := rfl
@[simp] theorem num_pow (a b : ℝ) : Num.pow a b = Real.rpow a b := rfl
@[simp] theorem num_log2 (a : ℝ) : Num.log2 a = Real.logb 2 a := rfl
@[simp] theorem num_ge (a b : ℝ) : Num.ge a b = decide (a ≥ b) := rfl
@[simp] theorem num_gt (a b : ℝ) : Num.gt a b = decide (a > b) := rfl
@[simp] theorem num_isZero (a : ℝ) : Num.isZero a = decide (a = 0) := rfl
@[simp] theorem priorOdds_eq (p : ℝ) : priorOdds p = p / (1 - p) := rfl

/-! ## The score at `ℝ` -/

theorem foldl_mul (a : ℝ) (xs : List ℝ) : xs.foldl Num.mul a = a * xs.prod := by
  induction xs generalizing a with
  | nil => exact (mul_one a).symm
  | cons x xs ih => rw [List.foldl_cons, ih, List.prod_cons, num_mul, mul_assoc]

theorem product_fin (prior : ℝ) (xs : List ℝ) :
    product prior (xs.map fun x => some (Fac.fin x)) =
      some (Fac.fin (prior / (1 - prior) * xs.prod)) := by
  rw [product_map_fin, foldl_mul, priorOdds_eq]

theorem logb_list_prod (xs : List ℝ) (hx : ∀ x ∈ xs, 0 < x) :
    Real.logb 2 xs.prod = (xs.map (Real.logb 2)).sum := by
  induction xs with
  | nil => simp
  | cons x xs ih =>
    have hxs : ∀ y ∈ xs, 0 < y := fun y hy => hx y (List.mem_cons_of_mem _ hy)
    rw [List.prod_cons, List.map_cons, List.sum_cons,
      Real.logb_mul (hx x List.mem_cons_self).ne' (List.prod_pos hxs).ne', ih hxs]

theorem probOf_fin (ts : List (Option (Fac ℝ))) (bf : ℝ)
    (hfin : ∀ t ∈ ts, ∀ f, t = some f → f.isInf = false) :
    probOf ts (Fac.fin bf) = bf / (1 + bf) :=
  probOf_of_finite hfin bf

/-- Odds to probability: `x ↦ x / (1 + x)` maps the positive reals into `(0, 1)`. -/
theorem div_one_add_bounds {x : ℝ} (hx : 0 < x) : 0 < x / (1 + x) ∧ x / (1 + x) < 1 :=
  have h1 : 0 < 1 + x := add_pos one_pos hx
  ⟨div_pos hx h1, (div_lt_one h1).mpr (lt_one_add x)⟩

/-- … and is strictly increasing there (cross-multiplied, the claim is `x < y`). -/
theorem div_one_add_lt {x y : ℝ} (hx : 0 < x) (hxy : x < y) : x / (1 + x) < y / (1 + y) := by
  rw [div_lt_div_iff₀ (add_pos one_pos hx) (add_pos one_pos (hx.trans hxy)), mul_add, mul_add, mul_one,
    mul_one, mul_comm]
  exact add_lt_add_left hxy _

theorem levelBF_eq (l : Level ℝ) :
    levelBF l = if l.isNull then Fac.fin 1 else if l.u = 0 then Fac.inf else Fac.fin (l.m / l.u) := by
  simp only [levelBF, num_isZero, decide_eq_true_eq, num_one, num_div]

/-! ## Term-frequency adjustment and threshold -/

/-- The CASE shape emitted for `minimum_u = 0` leaves the `0` out of the maximum. -/
theorem tfDivisor_zero (a b : ℝ) : tfDivisor 0 a b = max a b := by
  unfold tfDivisor
  simp only [num_isZero, num_ge, decide_true, if_true, decide_eq_true_eq]
  by_cases h : a ≥ b
  · rw [if_pos h, max_eq_left h]
  · rw [if_neg h, max_eq_right (le_of_lt (not_le.mp h))]

/-- The general CASE shape is `max(tf_l, tf_r, minimum_u)`, whatever the three numbers are. -/
theorem tfDivisor_of_ne_zero {minU : ℝ} (h1 : minU ≠ 0) (a b : ℝ) :
    tfDivisor minU a b = max (max a b) minU := by
  unfold tfDivisor
  simp only [num_isZero, num_ge, num_gt, Bool.and_eq_true, decide_eq_true_eq]
  rw [if_neg h1]
  by_cases h2 : a ≥ b
  · by_cases h3 : a > minU
    · rw [if_pos ⟨h2, h3⟩, max_eq_left h2, max_eq_left (le_of_lt h3)]
    · have h3' : a ≤ minU := not_lt.mp h3
      have h4 : ¬ b > minU := fun h => h3 (lt_of_lt_of_le h h2)
      rw [if_neg (fun h => h3 h.2), if_neg h4, max_eq_left h2, max_eq_right h3']
  · have h2' : a ≤ b := le_of_lt (not_le.mp h2)
    rw [if_neg (fun h => h2 h.1), max_eq_right h2']
    by_cases h4 : b > minU
    · rw [if_pos h4, max_eq_left (le_of_lt h4)]
    · rw [if_neg h4, max_eq_right (not_lt.mp h4)]

/-- A level whose adjustment is switched on (a TF column, a non-zero weight, neither the null nor
the `ELSE` level): the factor as a function of the two coalesced term frequencies. -/
theorem levelTfAdj_active (l : Level ℝ) (t : TF ℝ) (tfl tfr : Nat → Option ℝ)
    (a b : ℝ) (ht : l.tf = some t) (hcv : l.cvv ≠ -1) (hw : t.weight ≠ 0) (he : l.isElse = false)
    (hl : (tfl t.col).orElse (fun _ => tfr t.col) = some a)
    (hr : (tfr t.col).orElse (fun _ => tfl t.col) = some b) :
    levelTfAdj l tfl tfr = Real.rpow (t.uExact / tfDivisor t.minU a b) t.weight := by
  simp only [levelTfAdj, ht, hl, hr, he, beq_iff_eq, hcv, num_isZero,
    decide_eq_true_eq, hw, Bool.false_eq_true, if_false, num_pow, num_div]

theorem thresholdAsWeight_prob (p : ℝ) :
    thresholdAsWeight (Threshold.prob p) = if p = 0 then none else some (Real.logb 2 (p / (1 - p))) := by
  simp only [thresholdAsWeight, num_isZero, decide_eq_true_eq, num_log2, priorOdds_eq]

/-- Whatever the form of the threshold argument, a finite weight is compared with its weight form. -/
theorem keep_fin {thr : Threshold ℝ} {s : Scored ℝ} {t w : ℝ}
    (ht : thresholdAsWeight thr = some t) (hw : s.weight = some (Fac.fin w)) :
    keep thr s = true ↔ t ≤ w := by
  unfold keep
  rw [ht, hw]
  exact decide_eq_true_iff

end SplinkVerif.Lemmas.Score
