import SplinkVerif.Model.CC
import SplinkVerif.Lemmas.Base
import SplinkVerif.Lemmas.Lists
/-!
# The model of `solve_connected_components` computes the least reachable node

`Inv` holds after `firstIter` and is kept by `step`; the sum of the representatives drops at every pass that leaves
something to update, so `loop` ends within `fuel n` passes with nothing to update; then neighbours share their
representative (`Inv.rep_nb`), which with `Inv.A`/`Inv.B` makes `rep i` the least node reachable from `i`
(`cluster_is_min_reachable`; hence `same_cluster_iff_reach`).
-/
namespace SplinkVerif.Lemmas
open SplinkVerif SplinkVerif.CC

/-- Adjacency of the thresholded graph on nodes `0..n-1` (edges are undirected).  The statements of
`Properties/C05.lean` are written with `C05.Adj`, which this file cannot import; that definition has the same body,
so a lemma about this one proves the statement about that one as it stands. -/
def Adj (n : Nat) (edges : List Edge) (i j : Nat) : Prop :=
  i < n ∧ j < n ∧ ((i, j) ∈ edges ∨ (j, i) ∈ edges)

/-! ## Neighbours -/

/-- What the invariants need to know about the neighbour function. -/
structure NbOK (n : Nat) (adj : Nat → Nat → Prop) (nb : Nat → List Nat) : Prop where
  self : ∀ i, i < n → i ∈ nb i
  symm : ∀ i j, i < n → j ∈ nb i → i ∈ nb j
  lt : ∀ i j, i < n → j ∈ nb i → j < n
  toAdj : ∀ i j, i < n → j ∈ nb i → j ≠ i → adj i j
  ofAdj : ∀ i j, i < n → adj i j → j ∈ nb i

theorem mem_edgesWithSelfLoops (n : Nat) (edges : List Edge) (a b : Nat) :
    (a, b) ∈ edgesWithSelfLoops n edges ↔ (a, b) ∈ edges ∨ (a < n ∧ a = b) := by
  unfold edgesWithSelfLoops
  rw [List.mem_eraseDups, List.mem_append, List.mem_map]
  constructor
  · rintro (h | ⟨v, hv, hveq⟩)
    · exact Or.inl h
    · right
      have h1 : v = a := congrArg Prod.fst hveq
      have h2 : v = b := congrArg Prod.snd hveq
      exact ⟨by rw [← h1]; exact List.mem_range.mp hv, by rw [← h1, ← h2]⟩
  · rintro (h | ⟨h1, h2⟩)
    · exact Or.inl h
    · right
      exact ⟨a, List.mem_range.mpr h1, by rw [h2]⟩

theorem mem_neighboursOf (es : List Edge) (i j : Nat) :
    j ∈ neighboursOf es i ↔ (i, j) ∈ es ∨ (j, i) ∈ es := by
  unfold neighboursOf
  rw [List.mem_eraseDups, List.mem_append, List.mem_map, List.mem_map]
  constructor
  · rintro (⟨e, he, rfl⟩ | ⟨e, he, rfl⟩)
    · obtain ⟨hm, hk⟩ := List.mem_filter.mp he
      have : e.1 = i := by simpa using hk
      left; rw [← this]; exact hm
    · obtain ⟨hm, hk⟩ := List.mem_filter.mp he
      have : e.2 = i := by simpa using hk
      right; rw [← this]; exact hm
  · rintro (h | h)
    · exact Or.inl ⟨(i, j), List.mem_filter.mpr ⟨h, by simp⟩, rfl⟩
    · exact Or.inr ⟨(j, i), List.mem_filter.mpr ⟨h, by simp⟩, rfl⟩

theorem neighbours_get (n : Nat) (edges : List Edge) :
    (neighbours n edges).get = neighboursOf (edgesWithSelfLoops n edges) := by
  unfold neighbours
  exact Tab.get_build_fun _ _

theorem mem_nb (n : Nat) (edges : List Edge) (i j : Nat) :
    j ∈ (neighbours n edges).get i ↔
      ((i, j) ∈ edges ∨ (j, i) ∈ edges) ∨ (i < n ∧ i = j) := by
  rw [neighbours_get, mem_neighboursOf, mem_edgesWithSelfLoops, mem_edgesWithSelfLoops]
  constructor
  · rintro ((h | h) | (h | h))
    · exact Or.inl (Or.inl h)
    · exact Or.inr h
    · exact Or.inl (Or.inr h)
    · exact Or.inr ⟨by omega, by omega⟩
  · rintro ((h | h) | h)
    · exact Or.inl (Or.inl h)
    · exact Or.inr (Or.inl h)
    · exact Or.inl (Or.inr h)

theorem nbOK (n : Nat) (edges : List Edge) (hE : ∀ e ∈ edges, e.1 < n ∧ e.2 < n) :
    NbOK n (Adj n edges) (neighbours n edges).get where
  self := fun i hi => (mem_nb n edges i i).mpr (Or.inr ⟨hi, rfl⟩)
  symm := by
    intro i j hi hj
    rcases (mem_nb n edges i j).mp hj with (h | h) | ⟨_, h⟩
    · exact (mem_nb n edges j i).mpr (Or.inl (Or.inr h))
    · exact (mem_nb n edges j i).mpr (Or.inl (Or.inl h))
    · subst h; exact hj
  lt := by
    intro i j hi hj
    rcases (mem_nb n edges i j).mp hj with (h | h) | ⟨_, h⟩
    · exact (hE _ h).2
    · exact (hE _ h).1
    · omega
  toAdj := by
    intro i j hi hj hne
    rcases (mem_nb n edges i j).mp hj with (h | h) | ⟨_, h⟩
    · exact ⟨hi, (hE _ h).2, Or.inl h⟩
    · exact ⟨hi, (hE _ h).1, Or.inr h⟩
    · exact absurd h.symm hne
  ofAdj := by
    intro i j _ h
    exact (mem_nb n edges i j).mpr (Or.inl h.2.2)

theorem adj_symm (n : Nat) (edges : List Edge) (a b : Nat) (h : Adj n edges a b) :
    Adj n edges b a :=
  ⟨h.2.1, h.1, h.2.2.symm⟩

/-! ## `step` as plain functions -/

/-- `live` column after a pass. -/
def live' (n : Nat) (nb : Nat → List Nat) (s : St) (i : Nat) : Bool :=
  s.live i && nonStable n nb s (s.rep i)

/-- `rep` column after a pass. -/
def rep' (n : Nat) (nb : Nat → List Nat) (s : St) (i : Nat) : Nat :=
  if live' n nb s i then
    minOver (((nb i).filter fun j => live' n nb s j && s.upd j).map s.rep) (s.rep i)
  else s.rep i

theorem step_live (n : Nat) (nb : Nat → List Nat) (s : St) :
    (step n nb s).live = live' n nb s := by
  unfold live' nonStable
  simp only [step, Tab.get_build_fun, Tab.get_build]

theorem step_rep (n : Nat) (nb : Nat → List Nat) (s : St) :
    (step n nb s).rep = rep' n nb s := by
  unfold rep' live' nonStable
  simp only [step, Tab.get_build_fun, Tab.get_build]

theorem step_upd (n : Nat) (nb : Nat → List Nat) (s : St) (i : Nat) :
    (step n nb s).upd i = (live' n nb s i && rep' n nb s i != s.rep i) := by
  unfold rep' live' nonStable
  simp only [step, Tab.get_build_fun, Tab.get_build]

theorem step_out (n : Nat) (nb : Nat → List Nat) (s : St) :
    (step n nb s).out = s.out ++
      ((List.range n).filter fun i => s.live i && !live' n nb s i).map fun i => (i, s.rep i) := by
  simp only [step, Tab.get_build_fun, Tab.get_build]
  rfl

theorem live'_live {n : Nat} {nb : Nat → List Nat} {s : St} {i : Nat}
    (h : live' n nb s i = true) : s.live i = true := by
  unfold live' at h
  exact (Bool.and_eq_true _ _ ▸ h).1

theorem rep'_le (n : Nat) (nb : Nat → List Nat) (s : St) (i : Nat) :
    rep' n nb s i ≤ s.rep i := by
  unfold rep'
  split
  · exact minOver_le_init _ _
  · exact Nat.le_refl _

theorem rep'_of_not_live {n : Nat} {nb : Nat → List Nat} {s : St} {i : Nat}
    (h : live' n nb s i = false) : rep' n nb s i = s.rep i := by
  unfold rep'
  simp [h]

theorem rep'_cases (n : Nat) (nb : Nat → List Nat) (s : St) (i : Nat) :
    rep' n nb s i = s.rep i ∨ ∃ j, j ∈ nb i ∧ rep' n nb s i = s.rep j := by
  unfold rep'
  split
  · rcases minOver_mem (((nb i).filter fun j => live' n nb s j && s.upd j).map s.rep) (s.rep i)
      with h | h
    · exact Or.inl h
    · right
      obtain ⟨j, hj, hjeq⟩ := List.mem_map.mp h
      exact ⟨j, (List.mem_filter.mp hj).1, hjeq.symm⟩
  · exact Or.inl rfl

theorem hasForeign_iff {nb : Nat → List Nat} {s : St} {i : Nat} :
    hasForeign nb s i = true ↔ ∃ j, j ∈ nb i ∧ s.live j = true ∧ s.rep i ≠ s.rep j := by
  unfold hasForeign
  simp only [List.any_eq_true, Bool.and_eq_true, bne_iff_ne]

theorem nonStable_iff {n : Nat} {nb : Nat → List Nat} {s : St} {g : Nat} :
    nonStable n nb s g = true ↔
      ∃ i, i < n ∧ s.live i = true ∧ s.rep i = g ∧ hasForeign nb s i = true := by
  unfold nonStable
  simp only [List.any_eq_true, List.mem_range, Bool.and_eq_true, beq_iff_eq, and_assoc]

/-! ## Invariants -/

/-- `A`, `B`: the representative is a reachable node, not above the node itself.  `C`: a live neighbour that is not
flagged has already been taken into account.  `D`: a node leaves the loop together with its neighbours, all with one
representative.  `P`, `O`: `out` and the live nodes partition `0..n-1`, and `out` holds final representatives. -/
structure Inv (n : Nat) (adj : Nat → Nat → Prop) (nb : Nat → List Nat) (s : St) : Prop where
  A : ∀ i, i < n → s.rep i ≤ i
  B : ∀ i, i < n → Reach adj i (s.rep i)
  C : ∀ i j, i < n → s.live i = true → j ∈ nb i → s.live j = true → s.upd j = false →
        s.rep i ≤ s.rep j
  D : ∀ i j, i < n → s.live i = false → j ∈ nb i → s.live j = false ∧ s.rep j = s.rep i
  P : (s.out.map (·.1) ++ (List.range n).filter s.live).Perm (List.range n)
  O : ∀ i c, (i, c) ∈ s.out → i < n ∧ s.live i = false ∧ c = s.rep i

section
variable {n : Nat} {adj : Nat → Nat → Prop} {nb : Nat → List Nat}

theorem reach_nb (hnb : NbOK n adj nb) {i j : Nat} (hi : i < n) (hj : j ∈ nb i) :
    Reach adj i j := by
  by_cases h : j = i
  · subst h; exact Reach.refl _
  · exact reach_single (hnb.toAdj i j hi hj h)

theorem Inv.live_nb (hnb : NbOK n adj nb) {s : St} (hs : Inv n adj nb s) {i j : Nat} (hi : i < n)
    (hli : s.live i = true) (hj : j ∈ nb i) : s.live j = true := by
  cases hlj : s.live j
  · rw [(hs.D j i (hnb.lt i j hi hj) hlj (hnb.symm i j hi hj)).1] at hli
    cases hli
  · rfl

theorem initialRep_le (nb : Nat → List Nat) (i : Nat) : initialRep nb i ≤ i :=
  minOver_le_init _ _

theorem reach_initialRep (hnb : NbOK n adj nb) {i : Nat} (hi : i < n) :
    Reach adj i (initialRep nb i) := by
  unfold initialRep
  rcases minOver_mem (nb i) i with h | h
  · rw [h]; exact Reach.refl _
  · exact reach_nb hnb hi h

theorem firstIter_rep (n : Nat) (nb : Nat → List Nat) (i : Nat) :
    (firstIter n nb).rep i = minOver ((nb i).map (initialRep nb)) (initialRep nb i) := by
  simp only [firstIter, Tab.get_build_fun, Tab.get_build]

theorem firstIter_upd (n : Nat) (nb : Nat → List Nat) (i : Nat) :
    (firstIter n nb).upd i = ((firstIter n nb).rep i != initialRep nb i) := by
  simp only [firstIter, Tab.get_build_fun, Tab.get_build]

theorem firstIter_live (n : Nat) (nb : Nat → List Nat) (i : Nat) :
    (firstIter n nb).live i = true := rfl

theorem firstIter_out (n : Nat) (nb : Nat → List Nat) : (firstIter n nb).out = [] := rfl

theorem inv_firstIter (hnb : NbOK n adj nb) : Inv n adj nb (firstIter n nb) where
  A := by
    intro i _
    rw [firstIter_rep]
    exact Nat.le_trans (minOver_le_init _ _) (initialRep_le nb i)
  B := by
    intro i hi
    rw [firstIter_rep]
    rcases minOver_mem ((nb i).map (initialRep nb)) (initialRep nb i) with h | h
    · rw [h]; exact reach_initialRep hnb hi
    · obtain ⟨j, hj, hjeq⟩ := List.mem_map.mp h
      rw [← hjeq]
      exact reach_trans (reach_nb hnb hi hj) (reach_initialRep hnb (hnb.lt i j hi hj))
  C := by
    intro i j _ _ hj _ hu
    rw [firstIter_upd] at hu
    have hje : (firstIter n nb).rep j = initialRep nb j := by simpa using hu
    rw [hje, firstIter_rep]
    exact minOver_le_mem _ _ _ (List.mem_map.mpr ⟨j, hj, rfl⟩)
  D := by
    intro i j _ hl
    rw [firstIter_live] at hl
    cases hl
  P := by
    rw [firstIter_out]
    have : (List.range n).filter (firstIter n nb).live = List.range n :=
      List.filter_eq_self.mpr (fun a _ => firstIter_live n nb a)
    rw [this]
    exact List.Perm.refl _
  O := by
    intro i c h
    rw [firstIter_out] at h
    cases h

theorem inv_step (hnb : NbOK n adj nb) {s : St} (hs : Inv n adj nb s) :
    Inv n adj nb (step n nb s) where
  A := by
    intro i hi
    rw [step_rep]
    exact Nat.le_trans (rep'_le n nb s i) (hs.A i hi)
  B := by
    intro i hi
    rw [step_rep]
    rcases rep'_cases n nb s i with h | ⟨j, hj, h⟩
    · rw [h]; exact hs.B i hi
    · rw [h]
      exact reach_trans (reach_nb hnb hi hj) (hs.B j (hnb.lt i j hi hj))
  C := by
    intro i j hi hli hj hlj hu
    rw [step_live] at hli hlj
    rw [step_upd, hlj] at hu
    rw [step_rep]
    have hje : rep' n nb s j = s.rep j := by simpa using hu
    rw [hje]
    cases huj : s.upd j
    · exact Nat.le_trans (rep'_le n nb s i)
        (hs.C i j hi (live'_live hli) hj (live'_live hlj) huj)
    · unfold rep'
      rw [if_pos hli]
      apply minOver_le_mem
      exact List.mem_map.mpr ⟨j, List.mem_filter.mpr ⟨hj, by simp [hlj, huj]⟩, rfl⟩
  D := by
    intro i j hi hl hj
    rw [step_live] at hl
    rw [step_live, step_rep, rep'_of_not_live hl]
    have hjn : j < n := hnb.lt i j hi hj
    cases hli : s.live i
    · obtain ⟨h1, h2⟩ := hs.D i j hi hli hj
      have hlj' : live' n nb s j = false := by simp [live', h1]
      exact ⟨hlj', by rw [rep'_of_not_live hlj', h2]⟩
    · have hns : nonStable n nb s (s.rep i) = false := by
        simpa [live', hli] using hl
      have hrep : s.rep i = s.rep j :=
        Decidable.byContradiction fun hne =>
          Bool.eq_false_iff.mp hns (nonStable_iff.mpr ⟨i, hi, hli, rfl,
            hasForeign_iff.mpr ⟨j, hj, hs.live_nb hnb hi hli hj, hne⟩⟩)
      have hlj' : live' n nb s j = false := by
        simp [live', ← hrep, hns]
      exact ⟨hlj', by rw [rep'_of_not_live hlj', hrep]⟩
  P := by
    rw [step_out, step_live, List.map_append, Lists.map_fst_pair, List.append_assoc]
    have hsplit := Lists.filter_split_perm s.live (live' n nb s) (List.range n)
      (fun x _ hx => live'_live hx)
    exact (List.Perm.append (List.Perm.refl _) hsplit).trans hs.P
  O := by
    intro i c h
    rw [step_out] at h
    rw [step_live, step_rep]
    rcases List.mem_append.mp h with h | h
    · obtain ⟨h1, h2, h3⟩ := hs.O i c h
      have hl : live' n nb s i = false := by simp [live', h2]
      exact ⟨h1, hl, by rw [rep'_of_not_live hl]; exact h3⟩
    · obtain ⟨k, hk, hkeq⟩ := List.mem_map.mp h
      cases hkeq
      obtain ⟨hm, hp⟩ := List.mem_filter.mp hk
      have hl : live' n nb s i = false := by
        have := (Bool.and_eq_true _ _ ▸ hp).2
        simpa using this
      exact ⟨List.mem_range.mp hm, hl, (rep'_of_not_live hl).symm⟩

theorem inv_loop (hnb : NbOK n adj nb) (fuel : Nat) {s : St} (hs : Inv n adj nb s) :
    Inv n adj nb (loop n nb fuel s) := by
  induction fuel generalizing s with
  | zero => exact hs
  | succ f ih =>
    unfold loop
    split
    · exact ih (inv_step hnb hs)
    · exact hs

end

/-! ## Termination -/

def sumRep (n : Nat) (s : St) : Nat := ((List.range n).map s.rep).sum

theorem exists_of_updCount_pos {n : Nat} {s : St} (h : 0 < updCount n s) :
    ∃ i, i < n ∧ s.live i = true ∧ s.upd i = true := by
  unfold updCount at h
  obtain ⟨i, hi⟩ := List.exists_mem_of_length_pos h
  obtain ⟨hm, hp⟩ := List.mem_filter.mp hi
  have := Bool.and_eq_true _ _ ▸ hp
  exact ⟨i, List.mem_range.mp hm, this.1, this.2⟩

theorem updCount_zero {n : Nat} {s : St} (h : updCount n s = 0) (i : Nat) (hi : i < n)
    (hl : s.live i = true) : s.upd i = false := by
  unfold updCount at h
  have h1 := List.length_eq_zero_iff.mp h
  rw [List.filter_eq_nil_iff] at h1
  have := h1 i (List.mem_range.mpr hi)
  simpa [hl] using this

theorem sumRep_step_lt (n : Nat) (nb : Nat → List Nat) (s : St)
    (h : 0 < updCount n (step n nb s)) : sumRep n (step n nb s) < sumRep n s := by
  obtain ⟨i, hi, _, hu⟩ := exists_of_updCount_pos h
  rw [step_upd] at hu
  have hne : rep' n nb s i ≠ s.rep i := by
    have := (Bool.and_eq_true _ _ ▸ hu).2
    simpa using this
  unfold sumRep
  rw [step_rep]
  apply Lists.sum_map_lt _ _ _ (fun x _ => rep'_le n nb s x) i (List.mem_range.mpr hi)
  have := rep'_le n nb s i
  omega

theorem loop_of_zero (n : Nat) (nb : Nat → List Nat) (fuel : Nat) (s : St)
    (h : updCount n s = 0) : loop n nb fuel s = s := by
  cases fuel with
  | zero => rfl
  | succ f =>
    unfold loop
    rw [if_neg (by omega)]

/-- The hypothesis is what the induction on `fuel` carries: nothing is left to update, or `sumRep`, which every pass
that leaves something to update makes smaller (`sumRep_step_lt`), is below the fuel that is left. -/
theorem loop_updCount_zero (n : Nat) (nb : Nat → List Nat) (fuel : Nat) (s : St)
    (h : updCount n s = 0 ∨ sumRep n s < fuel) : updCount n (loop n nb fuel s) = 0 := by
  induction fuel generalizing s with
  | zero =>
    rcases h with h | h
    · exact h
    · omega
  | succ f ih =>
    by_cases hz : updCount n s = 0
    · rw [loop_of_zero n nb _ s hz]; exact hz
    · unfold loop
      rw [if_pos (by omega)]
      apply ih
      by_cases hz' : updCount n (step n nb s) = 0
      · exact Or.inl hz'
      · right
        have h1 := sumRep_step_lt n nb s (by omega)
        rcases h with h | h
        · exact absurd h hz
        · omega

theorem sumRep_le {n : Nat} {adj : Nat → Nat → Prop} {nb : Nat → List Nat} {s : St}
    (hs : Inv n adj nb s) : sumRep n s ≤ n * n := by
  unfold sumRep
  have := Lists.sum_map_le_length_mul (List.range n) s.rep n (fun x hx => by
    have hx' := List.mem_range.mp hx
    have := hs.A x hx'
    omega)
  simpa using this

/-! ## A state with nothing to update -/

section
variable {n : Nat} {adj : Nat → Nat → Prop} {nb : Nat → List Nat} {s : St}

theorem Inv.rep_nb (hnb : NbOK n adj nb) (hs : Inv n adj nb s) (hz : updCount n s = 0) {i j : Nat}
    (hi : i < n) (hj : j ∈ nb i) : s.rep i = s.rep j := by
  have hjn : j < n := hnb.lt i j hi hj
  cases hli : s.live i
  · exact ((hs.D i j hi hli hj).2).symm
  · -- both rows are live and neither is flagged: `Inv.C` both ways
    have hlj := hs.live_nb hnb hi hli hj
    have h1 := hs.C i j hi hli hj hlj (updCount_zero hz j hjn hlj)
    have h2 := hs.C j i hjn hlj (hnb.symm i j hi hj) hli (updCount_zero hz i hi hli)
    omega

theorem Inv.rep_reach (hnb : NbOK n adj nb) (hs : Inv n adj nb s) (hz : updCount n s = 0) {i j : Nat}
    (hi : i < n) (h : Reach adj i j) : j < n ∧ s.rep i = s.rep j := by
  induction h with
  | refl => exact ⟨hi, rfl⟩
  | tail _ hjk ih =>
    have hk := hnb.ofAdj _ _ ih.1 hjk
    exact ⟨hnb.lt _ _ ih.1 hk, ih.2.trans (hs.rep_nb hnb hz ih.1 hk)⟩

end

/-! ## The run -/

theorem inv_run (n : Nat) (edges : List Edge) (hE : ∀ e ∈ edges, e.1 < n ∧ e.2 < n) :
    Inv n (Adj n edges) (neighbours n edges).get (run n edges) := by
  have hnb := nbOK n edges hE
  unfold run
  exact inv_loop hnb _ (inv_step hnb (inv_firstIter hnb))

theorem run_updCount_zero (n : Nat) (edges : List Edge) (hE : ∀ e ∈ edges, e.1 < n ∧ e.2 < n) :
    updCount n (run n edges) = 0 := by
  have hnb := nbOK n edges hE
  unfold run
  apply loop_updCount_zero
  right
  have := sumRep_le (inv_step hnb (inv_firstIter hnb))
  unfold fuel
  omega

theorem run_rep_reach (n : Nat) (edges : List Edge) (hE : ∀ e ∈ edges, e.1 < n ∧ e.2 < n)
    (i j : Nat) (hi : i < n) (h : Reach (Adj n edges) i j) :
    j < n ∧ (run n edges).rep i = (run n edges).rep j :=
  (inv_run n edges hE).rep_reach (nbOK n edges hE) (run_updCount_zero n edges hE) hi h

theorem mem_cluster (n : Nat) (edges : List Edge) (hE : ∀ e ∈ edges, e.1 < n ∧ e.2 < n)
    (i c : Nat) (h : (i, c) ∈ cluster n edges) : i < n ∧ c = (run n edges).rep i := by
  have hs := inv_run n edges hE
  unfold cluster output at h
  rcases List.mem_append.mp h with h | h
  · obtain ⟨h1, _, h3⟩ := hs.O i c h
    exact ⟨h1, h3⟩
  · obtain ⟨k, hk, hkeq⟩ := List.mem_map.mp h
    cases hkeq
    exact ⟨List.mem_range.mp (List.mem_filter.mp hk).1, rfl⟩

theorem cluster_nodes_perm (n : Nat) (edges : List Edge) (hE : ∀ e ∈ edges, e.1 < n ∧ e.2 < n) :
    ((cluster n edges).map (·.1)).Perm (List.range n) := by
  have hs := inv_run n edges hE
  unfold cluster output
  rw [List.map_append, Lists.map_fst_pair]
  exact hs.P

theorem rep_le_of_reach (n : Nat) (E : List Edge) (hE : ∀ e ∈ E, e.1 < n ∧ e.2 < n) (i j : Nat)
    (hi : i < n) (h : Reach (Adj n E) i j) : (run n E).rep i ≤ j := by
  obtain ⟨hjn, heq⟩ := run_rep_reach n E hE i j hi h
  rw [heq]
  exact (inv_run n E hE).A j hjn

theorem cluster_is_min_reachable (n : Nat) (edges : List Edge)
    (hE : ∀ e ∈ edges, e.1 < n ∧ e.2 < n) :
    ∀ i c, (i, c) ∈ cluster n edges →
      Reach (Adj n edges) i c ∧ ∀ j, Reach (Adj n edges) i j → c ≤ j := by
  intro i c h
  have hs := inv_run n edges hE
  obtain ⟨hi, hc⟩ := mem_cluster n edges hE i c h
  subst hc
  exact ⟨hs.B i hi, fun j hj => rep_le_of_reach n edges hE i j hi hj⟩

theorem same_cluster_iff_reach (n : Nat) (edges : List Edge)
    (hE : ∀ e ∈ edges, e.1 < n ∧ e.2 < n) (i j ci cj : Nat)
    (hi : (i, ci) ∈ cluster n edges) (hj : (j, cj) ∈ cluster n edges) :
    ci = cj ↔ Reach (Adj n edges) i j := by
  have hs := inv_run n edges hE
  obtain ⟨hin, hci⟩ := mem_cluster n edges hE i ci hi
  obtain ⟨hjn, hcj⟩ := mem_cluster n edges hE j cj hj
  subst hci hcj
  constructor
  · intro heq
    have h1 := hs.B i hin
    have h2 := reach_symm (adj_symm n edges) (hs.B j hjn)
    rw [heq] at h1
    exact reach_trans h1 h2
  · intro h
    exact (run_rep_reach n edges hE i j hin h).2

theorem reach_isolated (n : Nat) (edges : List Edge) (i : Nat)
    (hiso : ∀ e ∈ edges, (e.1 = i ∨ e.2 = i) → e = (i, i)) (k : Nat)
    (h : Reach (Adj n edges) i k) : k = i := by
  induction h with
  | refl => rfl
  | tail _ hjk ih =>
    subst ih
    rcases hjk.2.2 with h | h
    · have := hiso _ h (Or.inl rfl)
      exact congrArg Prod.snd this
    · have := hiso _ h (Or.inr rfl)
      exact congrArg Prod.fst this

theorem rep_eq_of_reach_iff (n : Nat) (E E' : List Edge) (hE : ∀ e ∈ E, e.1 < n ∧ e.2 < n)
    (hE' : ∀ e ∈ E', e.1 < n ∧ e.2 < n) (i : Nat) (hi : i < n)
    (h : ∀ j, Reach (Adj n E) i j ↔ Reach (Adj n E') i j) :
    (run n E).rep i = (run n E').rep i :=
  Nat.le_antisymm (rep_le_of_reach n E hE i _ hi ((h _).mpr ((inv_run n E' hE').B i hi)))
    (rep_le_of_reach n E' hE' i _ hi ((h _).mp ((inv_run n E hE).B i hi)))

/-! ## Thresholded edges -/

theorem mem_thresholdEdges {α : Type} (ge : α → α → Bool) (thr : Option α) (edges : List (Nat × Nat × α))
    (l r : Nat) :
    (l, r) ∈ thresholdEdges ge thr edges ↔
      ∃ p, (l, r, p) ∈ edges ∧ (∀ t, thr = some t → ge p t = true) := by
  unfold thresholdEdges
  rw [List.mem_map]
  constructor
  · rintro ⟨⟨a, b, p⟩, he, heq⟩
    obtain ⟨hmem, hk⟩ := List.mem_filter.mp he
    cases heq
    exact ⟨p, hmem, fun t ht => by subst ht; exact hk⟩
  · rintro ⟨p, hmem, hk⟩
    refine ⟨(l, r, p), List.mem_filter.mpr ⟨hmem, ?_⟩, rfl⟩
    cases thr with
    | none => rfl
    | some t => exact hk t rfl

theorem thresholdEdges_ends {α : Type} (ge : α → α → Bool) (thr : Option α) (edges : List (Nat × Nat × α))
    (P : Nat → Prop) (hE : ∀ e ∈ edges, P e.1 ∧ P e.2.1) :
    ∀ e ∈ thresholdEdges ge thr edges, P e.1 ∧ P e.2 := by
  intro e he
  obtain ⟨x, hx, rfl⟩ := List.mem_map.mp he
  exact hE x (List.mem_filter.mp hx).1

theorem thresholdEdges_lt {α : Type} (ge : α → α → Bool) (thr : Option α) (n : Nat)
    (edges : List (Nat × Nat × α)) (hE : ∀ e ∈ edges, e.1 < n ∧ e.2.1 < n) :
    ∀ e ∈ thresholdEdges ge thr edges, e.1 < n ∧ e.2 < n :=
  thresholdEdges_ends ge thr edges (· < n) hE

end SplinkVerif.Lemmas
