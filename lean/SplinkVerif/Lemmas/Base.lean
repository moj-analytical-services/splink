import SplinkVerif.Model.Base
import SplinkVerif.Lemmas.Lists
/-!
# Lemmas about `Model/Base.lean`: three-valued logic by truth table, `minOver`, paths of `Reach` (core Lean only)
-/
namespace SplinkVerif.B3

/-! ## Three-valued logic -/

theorem cases (P : B3 → Prop) (h0 : P none) (h1 : P (some true)) (h2 : P (some false)) : ∀ a, P a
  | none => h0
  | some true => h1
  | some false => h2

/-- A statement about all truth values is a truth table. -/
instance decidableForall (P : B3 → Prop) [DecidablePred P] : Decidable (∀ a, P a) :=
  decidable_of_iff (P none ∧ P (some true) ∧ P (some false))
    ⟨fun h => cases P h.1 h.2.1 h.2.2, fun h => ⟨h _, h _, h _⟩⟩

theorem and3_comm : ∀ a b : B3, and3 a b = and3 b a := by decide
theorem or3_comm : ∀ a b : B3, or3 a b = or3 b a := by decide
theorem and3_assoc : ∀ a b c : B3, and3 (and3 a b) c = and3 a (and3 b c) := by decide
theorem or3_assoc : ∀ a b c : B3, or3 (or3 a b) c = or3 a (or3 b c) := by decide
theorem not3_and3 : ∀ a b : B3, not3 (and3 a b) = or3 (not3 a) (not3 b) := by decide
theorem not3_or3 : ∀ a b : B3, not3 (or3 a b) = and3 (not3 a) (not3 b) := by decide
theorem not3_not3 : ∀ a : B3, not3 (not3 a) = a := by decide
theorem isTrue_and3 : ∀ a b : B3, isTrue (and3 a b) = (isTrue a && isTrue b) := by decide
theorem isTrue_or3 : ∀ a b : B3, isTrue (or3 a b) = (isTrue a || isTrue b) := by decide
theorem isTrue_some : ∀ b : Bool, isTrue (some b) = b := by decide
theorem coalesceF_eq_isTrue : ∀ a : B3, coalesceF a = isTrue a := by decide
theorem and3_ne_none : ∀ {a b : B3}, a ≠ none → b ≠ none → and3 a b ≠ none := by decide
theorem or3_ne_none : ∀ {a b : B3}, a ≠ none → b ≠ none → or3 a b ≠ none := by decide

/-- A test on a nullable value is `d.map fun x => decide (p x)`: a weaker test holds wherever a stronger one does. -/
theorem isTrue_map_decide_mono {α : Type} {p q : α → Prop} [DecidablePred p] [DecidablePred q] (h : ∀ x, p x → q x) :
    ∀ d : Option α, isTrue (d.map fun x => decide (p x)) = true → isTrue (d.map fun x => decide (q x)) = true
  | none => id
  | some x => by
    simp only [Option.map_some, isTrue_some, decide_eq_true_eq]
    exact h x

end SplinkVerif.B3

namespace SplinkVerif.Lemmas
open SplinkVerif

/-! ## `minOver` -/

theorem minOver_spec (l : List Nat) (init : Nat) :
    minOver l init ∈ init :: l ∧ ∀ x ∈ init :: l, minOver l init ≤ x :=
  Lists.foldl_min_spec init l

theorem minOver_le_init (l : List Nat) (init : Nat) : minOver l init ≤ init :=
  (minOver_spec l init).2 _ List.mem_cons_self

theorem minOver_le_mem (l : List Nat) (init x : Nat) (h : x ∈ l) : minOver l init ≤ x :=
  (minOver_spec l init).2 _ (List.mem_cons_of_mem _ h)

theorem minOver_mem (l : List Nat) (init : Nat) : minOver l init = init ∨ minOver l init ∈ l :=
  List.mem_cons.mp (minOver_spec l init).1

theorem minOver_const (l : List Nat) (init : Nat) (h : ∀ x ∈ l, x = init) : minOver l init = init := by
  rcases minOver_mem l init with h' | h'
  · exact h'
  · exact h _ h'

/-! ## `Reach` -/

theorem reach_trans {adj : Nat → Nat → Prop} {i j k : Nat}
    (h1 : Reach adj i j) (h2 : Reach adj j k) : Reach adj i k := by
  induction h2 with
  | refl => exact h1
  | tail _ hjk ih => exact Reach.tail ih hjk

theorem reach_single {adj : Nat → Nat → Prop} {i j : Nat} (h : adj i j) : Reach adj i j :=
  Reach.tail (Reach.refl i) h

theorem reach_symm {adj : Nat → Nat → Prop} (hs : ∀ a b, adj a b → adj b a) {i j : Nat}
    (h : Reach adj i j) : Reach adj j i := by
  induction h with
  | refl => exact Reach.refl _
  | tail _ hjk ih => exact reach_trans (reach_single (hs _ _ hjk)) ih

theorem reach_map_of_closed {adj adj' : Nat → Nat → Prop} {P : Nat → Prop} (f : Nat → Nat)
    (h : ∀ a b, P a → adj a b → P b ∧ adj' (f a) (f b)) {i j : Nat} (hi : P i) (hr : Reach adj i j) :
    P j ∧ Reach adj' (f i) (f j) := by
  induction hr with
  | refl => exact ⟨hi, Reach.refl _⟩
  | tail _ hjk ih => exact ⟨(h _ _ ih.1 hjk).1, Reach.tail ih.2 (h _ _ ih.1 hjk).2⟩

theorem reach_map {adj adj' : Nat → Nat → Prop} (f : Nat → Nat)
    (h : ∀ a b, adj a b → adj' (f a) (f b)) {i j : Nat} (hr : Reach adj i j) :
    Reach adj' (f i) (f j) :=
  (reach_map_of_closed (P := fun _ => True) f (fun a b _ hab => ⟨trivial, h a b hab⟩) trivial hr).2

theorem reach_mono {adj adj' : Nat → Nat → Prop} (h : ∀ a b, adj a b → adj' a b) {i j : Nat}
    (hr : Reach adj i j) : Reach adj' i j :=
  reach_map id h hr

theorem reach_stuck {adj : Nat → Nat → Prop} {a b : Nat} (h : ∀ y, ¬ adj a y)
    (hr : Reach adj a b) : b = a := by
  induction hr with
  | refl => rfl
  | tail _ hjk ih => subst ih; exact (h _ hjk).elim

theorem reach_cross {R : Nat → Nat → Prop} (P : Nat → Prop) {a p : Nat} (hr : Reach R a p)
    (ha : P a) (hp : ¬ P p) : ∃ u u', R u u' ∧ P u ∧ ¬ P u' := by
  induction hr with
  | refl => exact absurd ha hp
  | tail hij hjk ih =>
    rename_i j k
    by_cases hj : P j
    · exact ⟨j, k, hjk, hj, hp⟩
    · exact ih hj

/-- Paths in a relation enlarged by one undirected edge `a — b`. -/
theorem reach_add_edge {R R' : Nat → Nat → Prop} {a b : Nat}
    (h : ∀ u v, R' u v → R u v ∨ (u = a ∧ v = b) ∨ (u = b ∧ v = a)) {p q : Nat}
    (hr : Reach R' p q) :
    Reach R p q ∨ (Reach R p a ∧ Reach R b q) ∨ (Reach R p b ∧ Reach R a q) := by
  induction hr with
  | refl => exact Or.inl (Reach.refl _)
  | tail _ hjk ih =>
    rcases h _ _ hjk with h1 | ⟨rfl, rfl⟩ | ⟨rfl, rfl⟩
    · rcases ih with ih | ⟨i1, i2⟩ | ⟨i1, i2⟩
      · exact Or.inl (Reach.tail ih h1)
      · exact Or.inr (Or.inl ⟨i1, Reach.tail i2 h1⟩)
      · exact Or.inr (Or.inr ⟨i1, Reach.tail i2 h1⟩)
    · rcases ih with ih | ⟨i1, _⟩ | ⟨i1, _⟩
      · exact Or.inr (Or.inl ⟨ih, Reach.refl _⟩)
      · exact Or.inr (Or.inl ⟨i1, Reach.refl _⟩)
      · exact Or.inl i1
    · rcases ih with ih | ⟨i1, _⟩ | ⟨i1, _⟩
      · exact Or.inr (Or.inr ⟨ih, Reach.refl _⟩)
      · exact Or.inl i1
      · exact Or.inr (Or.inr ⟨i1, Reach.refl _⟩)

end SplinkVerif.Lemmas
