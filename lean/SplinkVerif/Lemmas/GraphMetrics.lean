import SplinkVerif.Model.GraphMetrics
import SplinkVerif.Lemmas.Base
import SplinkVerif.Lemmas.Lists
import Mathlib.Data.List.Nodup
import Mathlib.Data.List.Perm.Subperm
import Mathlib.Tactic.Ring
/-!
# Lemmas for C19 (graph metrics)

Facts about `Model/GraphMetrics.lean`: degree as a count of incident edge rows,
the handshake identity per cluster, the closed form of the cluster row
(`clusterRow_nodesTable`), the round trip through the integer relabelling used
for igraph.  Density and centralisation are read off the closed form; what is
arithmetic in them is proved about numbers (`density_spec`,
`centralisation_spec`), and their ranges rest on three bounds for the degrees of
a cluster: `degree_le_of_mem` (simple graph), `handshake` and
`two_mul_degree_le_sum` (loop-free).  `centralisation_general` collects what is
proved about `cluster_centralisation`.
-/
namespace SplinkVerif.Lemmas.GM
open SplinkVerif SplinkVerif.GraphMetrics SplinkVerif.Lemmas.Lists

/-! ## Definitions the statements are phrased with -/

/-- Records of cluster `c`. -/
def members (n : Nat) (cid : Nat → Nat) (c : Nat) : List Nat :=
  (List.range n).filter fun j => cid j == c

/-- Edge rows with both endpoints in cluster `c`. -/
def edgesIn (cid : Nat → Nat) (c : Nat) (es : List Edge) : List Edge :=
  es.filter fun e => cid e.1 == c && cid e.2 == c

/-- The clustering is consistent with the kept edges: endpoints are records and share a cluster. -/
def Consistent (n : Nat) (cid : Nat → Nat) (es : List Edge) : Prop :=
  ∀ e ∈ es, e.1 < n ∧ e.2 < n ∧ cid e.1 = cid e.2

/-- Edges are distinct as unordered pairs and there is no self loop: no ordered pair occurs twice
among the rows and their reversals. -/
def Simple (es : List Edge) : Prop := (allNodes es).Nodup

/-- `f` stands for the rational `a / b`. -/
def IsQuot (f : Frac) (a : Int) (b : Nat) : Prop :=
  f.den ≠ 0 ∧ b ≠ 0 ∧ f.num * (b : Int) = a * (f.den : Int)

/-- The `neighbour` column of the `all_nodes` rows of record `i`. -/
def neighbours (es : List Edge) (i : Nat) : List Nat :=
  ((allNodes es).filter fun r => r.1 == i).map (·.2)

/-- The new id as a total function (0 outside `order`). -/
def pi (order : List Nat) (v : Nat) : Nat := (newId order v).getD 0

/-- The relabelling of an edge row: `pi` of both endpoints, written out (`relabel_eq`). -/
def relabel (order : List Nat) (e : Edge) : Nat × Nat :=
  ((newId order e.1).getD 0, (newId order e.2).getD 0)

theorem relabel_eq (order : List Nat) (e : Edge) : relabel order e = (pi order e.1, pi order e.2) := rfl

/-- Undirected adjacency of an edge list.  `Lemmas.Adj n g a b` of `Lemmas/CC.lean` is this together with
`a < n ∧ b < n`; the edge lists of this file come with no bound on the nodes, and bridges are stated with this one. -/
def AdjL (g : List (Nat × Nat)) (a b : Nat) : Prop := (a, b) ∈ g ∨ (b, a) ∈ g

/-- Specification of a bridge finder: edge index `k` is reported iff the endpoints of the `k`-th
edge are not connected once that edge row is removed. -/
def BridgeSpec (bridges : List (Nat × Nat) → List Nat) : Prop :=
  ∀ g k, k ∈ bridges g ↔ ∃ e, g[k]? = some e ∧ ¬ Reach (AdjL (g.eraseIdx k)) e.1 e.2

/-! ## Degree -/

theorem nodeDegree_eq (es : List Edge) (i : Nat) :
    nodeDegree es i = (es.filter fun e => e.1 == i).length + (es.filter fun e => e.2 == i).length := by
  unfold nodeDegree allNodes
  simp [List.filter_append, List.filter_map, Function.comp_def]

theorem nodeDegree_cons (e : Edge) (es : List Edge) (i : Nat) :
    nodeDegree (e :: es) i =
      nodeDegree es i + ((if i == e.1 then 1 else 0) + (if i == e.2 then 1 else 0)) := by
  simp only [nodeDegree_eq, ← List.countP_eq_length_filter, List.countP_cons, beq_iff_eq, eq_comm (a := i)]
  omega

theorem nodeDegree_incident (es : List Edge) (i : Nat) (h : ∀ e ∈ es, e.1 ≠ e.2) :
    nodeDegree es i = (es.filter fun e => e.1 == i || e.2 == i).length := by
  induction es with
  | nil => rfl
  | cons e t ih =>
    have he := h e (List.mem_cons_self ..)
    rw [nodeDegree_cons, ih fun x hx => h x (List.mem_cons_of_mem _ hx),
      ← List.countP_eq_length_filter, ← List.countP_eq_length_filter, List.countP_cons]
    simp only [Bool.or_eq_true, beq_iff_eq, eq_comm (a := i)]
    by_cases h1 : e.1 = i
    · rw [if_pos h1, if_pos (Or.inl h1), if_neg fun h2 => he (h1.trans h2.symm)]
    · simp only [h1, false_or, if_false, Nat.zero_add]

/-! ## Sums over a cluster -/

theorem mem_members {n : Nat} {cid : Nat → Nat} {c i : Nat} :
    i ∈ members n cid c ↔ i < n ∧ cid i = c := by
  simp [members]

theorem members_nodup (n : Nat) (cid : Nat → Nat) (c : Nat) : (members n cid c).Nodup :=
  List.Nodup.filter _ List.nodup_range

theorem handshake (n : Nat) (cid : Nat → Nat) (es : List Edge) (c : Nat)
    (hC : Consistent n cid es) :
    ((members n cid c).map (nodeDegree es)).sum = 2 * (edgesIn cid c es).length := by
  induction es with
  | nil => simp [show nodeDegree [] = fun _ => 0 from rfl, edgesIn]
  | cons e t ih =>
    obtain ⟨h1, h2, h12⟩ := hC e (List.mem_cons_self ..)
    have hcons : nodeDegree (e :: t) = fun i => _ := funext (nodeDegree_cons e t)
    -- each endpoint of `e` adds one to the sum iff it is a member, i.e. iff `e` lies in the cluster
    rw [hcons, sum_map_add, sum_map_add, ih fun x hx => hC x (List.mem_cons_of_mem _ hx),
      sum_indicator _ (members_nodup n cid c) e.1 fun _ => 1,
      sum_indicator _ (members_nodup n cid c) e.2 fun _ => 1]
    simp only [edgesIn, ← List.countP_eq_length_filter, List.countP_cons, mem_members, h1, h2, h12,
      true_and, Bool.and_eq_true, beq_iff_eq, and_self]
    omega

/-- In a loop-free multigraph with a consistent clustering, twice the degree of a member is at most
the degree sum of its cluster: the edge rows at the member all lie inside the cluster and each
contributes 2 to the degree sum (handshake). -/
theorem two_mul_degree_le_sum {n : Nat} {cid : Nat → Nat} {es : List Edge} {c v : Nat}
    (hloop : ∀ e ∈ es, e.1 ≠ e.2) (hC : Consistent n cid es) (hv : v ∈ members n cid c) :
    2 * nodeDegree es v ≤ ((members n cid c).map (nodeDegree es)).sum := by
  have hvc := (mem_members.mp hv).2
  rw [handshake n cid es c hC, nodeDegree_incident es v hloop, edgesIn,
    ← List.countP_eq_length_filter, ← List.countP_eq_length_filter]
  refine Nat.mul_le_mul_left 2 (List.countP_mono_left fun e he hinc => ?_)
  obtain ⟨_, _, h12⟩ := hC e he
  simp only [Bool.or_eq_true, beq_iff_eq] at hinc
  simp only [Bool.and_eq_true, beq_iff_eq]
  have h1 : cid e.1 = c := hinc.elim (fun h => h ▸ hvc) fun h => h12.trans (h ▸ hvc)
  exact ⟨h1, h12 ▸ h1⟩

theorem two_mul_maxdeg_le_sum (n : Nat) (cid : Nat → Nat) (es : List Edge) (c : Nat)
    (hloop : ∀ e ∈ es, e.1 ≠ e.2) (hC : Consistent n cid es) :
    2 * ((members n cid c).map (nodeDegree es)).foldl max 0 ≤
      ((members n cid c).map (nodeDegree es)).sum :=
  maxOf_ind _ _ (P := fun M => 2 * M ≤ _) (Nat.zero_le _) fun _ hv => two_mul_degree_le_sum hloop hC hv

/-! ## Neighbours -/

theorem neighbours_length (es : List Edge) (i : Nat) :
    (neighbours es i).length = nodeDegree es i := by
  simp [neighbours, nodeDegree]

theorem mem_allNodes {es : List Edge} {a b : Nat} :
    (a, b) ∈ allNodes es ↔ (a, b) ∈ es ∨ (b, a) ∈ es := by
  simp [allNodes, Prod.ext_iff]

theorem mem_neighbours {es : List Edge} {i x : Nat} :
    x ∈ neighbours es i ↔ (i, x) ∈ es ∨ (x, i) ∈ es := by
  rw [← mem_allNodes]
  simp [neighbours]

/-! ## Ranges on simple graphs -/

theorem neighbours_nodup {es : List Edge} (hS : Simple es) (i : Nat) : (neighbours es i).Nodup := by
  unfold neighbours
  refine List.Nodup.map_on ?_ (List.Nodup.filter _ hS)
  intro x hx y hy hxy
  have h1 := (List.mem_filter.mp hx).2
  have h2 := (List.mem_filter.mp hy).2
  simp only [beq_iff_eq] at h1 h2
  exact Prod.ext (h1.trans h2.symm) hxy

theorem simple_no_loop {es : List Edge} (hS : Simple es) : ∀ e ∈ es, e.1 ≠ e.2 := by
  intro e he heq
  unfold Simple allNodes at hS
  have hd := (List.nodup_append.mp hS).2.2
  have h1 : (e.1, e.2) ∈ es.map (fun e => (e.1, e.2)) := List.mem_map.mpr ⟨e, he, rfl⟩
  have h2 : (e.1, e.2) ∈ es.map (fun e => (e.2, e.1)) :=
    List.mem_map.mpr ⟨e, he, by rw [heq]⟩
  exact hd _ h1 _ h2 rfl

/-- On a simple graph with a consistent clustering a record has at most `size - 1` neighbours:
they are distinct members of its cluster other than itself. -/
theorem degree_le_of_mem {n : Nat} {cid : Nat → Nat} {es : List Edge} {c i : Nat} (hS : Simple es)
    (hC : Consistent n cid es) (hi : i ∈ members n cid c) :
    nodeDegree es i ≤ (members n cid c).length - 1 := by
  rw [← neighbours_length, ← List.length_erase_of_mem hi]
  refine List.Nodup.length_le_of_subset (neighbours_nodup hS i) fun x hx => ?_
  have hic := (mem_members.mp hi).2
  have hx' : x < n ∧ cid x = c ∧ x ≠ i := by
    rcases mem_neighbours.mp hx with h | h
    · obtain ⟨_, h2, h12⟩ := hC _ h
      exact ⟨h2, h12.symm.trans hic, fun hxi => simple_no_loop hS _ h hxi.symm⟩
    · obtain ⟨h1, _, h12⟩ := hC _ h
      exact ⟨h1, h12.trans hic, simple_no_loop hS _ h⟩
  exact (List.mem_erase_of_ne hx'.2.2).mpr (mem_members.mpr ⟨hx'.1, hx'.2.1⟩)

theorem sumdeg_le (n : Nat) (cid : Nat → Nat) (es : List Edge) (hS : Simple es)
    (hC : Consistent n cid es) (c : Nat) :
    ((members n cid c).map (nodeDegree es)).sum ≤
      (members n cid c).length * ((members n cid c).length - 1) :=
  sum_map_le_length_mul _ _ _ fun _ hi => degree_le_of_mem hS hC hi

theorem maxdeg_le (n : Nat) (cid : Nat → Nat) (es : List Edge) (hS : Simple es)
    (hC : Consistent n cid es) (c : Nat) :
    ((members n cid c).map (nodeDegree es)).foldl max 0 ≤ (members n cid c).length - 1 :=
  maxOf_ind _ _ (P := (· ≤ _)) (Nat.zero_le _) fun _ hv => degree_le_of_mem hS hC hv

/-! ## The groups of the nodes table -/

theorem nodesTable_eq (n : Nat) (cid : Nat → Nat) (es : List Edge) :
    nodesTable n cid es = (List.range n).map fun i =>
      (⟨i, cid i, nodeDegree es i, nodeCentrality (nodeDegree es i) (clusterSize n cid i)⟩ : NodeRow) := by
  simp [nodesTable, nodeDegreeTable]

theorem clusterSize_eq (n : Nat) (cid : Nat → Nat) (i : Nat) :
    clusterSize n cid i = (members n cid (cid i)).length := rfl

theorem nodesTable_filter (n : Nat) (cid : Nat → Nat) (es : List Edge) (c : Nat) :
    (nodesTable n cid es).filter (fun r => r.cluster == c) = (members n cid c).map fun i =>
      (⟨i, cid i, nodeDegree es i, nodeCentrality (nodeDegree es i) (clusterSize n cid i)⟩ : NodeRow) := by
  rw [nodesTable_eq, List.filter_map]
  rfl

theorem clusterRow_nodesTable (n : Nat) (cid : Nat → Nat) (es : List Edge) (c : Nat) :
    clusterRow (nodesTable n cid es) c =
      let ms := members n cid c
      let k := ms.length
      let s := (ms.map (nodeDegree es)).sum
      let mx := (ms.map (nodeDegree es)).foldl max 0
      { cluster := c, nNodes := k, nEdges := ⟨s, 2⟩
        density := if k > 1 then some ⟨(s : Int) * 2, 2 * (k * (k - 1))⟩ else none
        centralisation :=
          if k > 2 then some ⟨(k : Int) * (mx : Int) - (s : Int), (k - 1) * (k - 2)⟩ else none } := by
  unfold clusterRow
  simp only [nodesTable_filter, sumDeg, maxDeg, List.length_map, List.map_map, Function.comp_def]

theorem clusterRow_cluster (rows : List NodeRow) (c : Nat) : (clusterRow rows c).cluster = c := rfl

theorem clusters_ids (rows : List NodeRow) :
    (clustersTable rows).map (·.cluster) = (rows.map (·.cluster)).eraseDups := by
  unfold clustersTable
  rw [List.map_map]
  exact (List.map_congr_left fun c _ => rfl).trans (List.map_id _)

/-! ## Closed forms and ranges of the normalised metrics -/

/-- The density fraction `2S / (2P)` of a cluster with degree sum `S = 2E` and `P = k (k−1) ≠ 0`. -/
theorem density_spec {P S E : Nat} (hP : P ≠ 0) (hs : S = 2 * E) :
    IsQuot ⟨(S : Int) * 2, 2 * P⟩ (2 * (E : Int)) P ∧
      (0 : Int) ≤ (S : Int) * 2 ∧ (S ≤ P → (S : Int) * 2 ≤ ((2 * P : Nat) : Int)) := by
  refine ⟨⟨Nat.mul_ne_zero (Nat.succ_ne_zero 1) hP, hP, ?_⟩, by omega, fun h => by omega⟩
  show (S : Int) * 2 * (P : Int) = 2 * (E : Int) * ((2 * P : Nat) : Int)
  rw [hs]
  push_cast
  ring

theorem density_def (n : Nat) (cid : Nat → Nat) (es : List Edge) (c : Nat)
    (hC : Consistent n cid es) :
    let k := (members n cid c).length
    let E := (edgesIn cid c es).length
    (k > 1 → ∃ d, (clusterRow (nodesTable n cid es) c).density = some d ∧
        IsQuot d (2 * (E : Int)) (k * (k - 1)) ∧ 0 ≤ d.num ∧ (Simple es → d.num ≤ d.den)) ∧
    (k ≤ 1 → (clusterRow (nodesTable n cid es) c).density = none) := by
  intro k E
  rw [clusterRow_nodesTable]
  refine ⟨fun hk => ?_, fun hk => if_neg (Nat.not_lt.mpr hk)⟩
  obtain ⟨hq, h0, h1⟩ := density_spec
    (Nat.mul_ne_zero (Nat.ne_of_gt (Nat.zero_lt_of_lt hk)) (Nat.sub_ne_zero_of_lt hk))
    (handshake n cid es c hC)
  exact ⟨_, if_pos hk, hq, h0, fun hS => h1 (sumdeg_le n cid es hS hC c)⟩

/-- The centralisation fraction `(k·M − S) / ((k−1)(k−2))` of a cluster with `k > 2` members,
largest degree `M`, degree sum `S` and `D = Σ (M − deg)`: it stands for `D / ((k−1)(k−2))`, and
`2·M ≤ S` bounds its numerator by `(k−2)·M`, which is at most the denominator when `M ≤ k−1`. -/
theorem centralisation_spec {k M S D : Nat} (hk : 2 < k) (hD : D + S = k * M) :
    IsQuot ⟨(k : Int) * M - S, (k - 1) * (k - 2)⟩ (D : Int) ((k - 1) * (k - 2)) ∧
      (0 : Int) ≤ (k : Int) * M - S ∧
      (2 * M ≤ S → (k : Int) * M - S ≤ ((k - 2 : Nat) : Int) * M) ∧
      (2 * M ≤ S → M ≤ k - 1 → (k : Int) * M - S ≤ (((k - 1) * (k - 2) : Nat) : Int)) := by
  have hden : (k - 1) * (k - 2) ≠ 0 := Nat.mul_ne_zero (by omega) (by omega)
  have hnum : (k : Int) * M - S = D := by omega
  -- `k·M = 2·M + (k − 2)·M`
  have hkM : 2 * M ≤ S → k * M ≤ S + (k - 2) * M := fun h2 => by
    obtain ⟨j, rfl⟩ := Nat.exists_eq_add_of_le' (Nat.le_of_lt hk)
    rw [Nat.add_sub_cancel, Nat.add_mul]
    omega
  refine ⟨⟨hden, hden, congrArg (· * _) hnum⟩, by omega, fun h2 => ?_, fun h2 hM => ?_⟩
  · have := hkM h2
    omega
  · have := hkM h2
    have := Nat.mul_le_mul_left (k - 2) hM
    rw [Nat.mul_comm (k - 1)]
    omega

/-- Cluster centralisation of a cluster of `k > 2` members is Freeman's degree centralisation
`Σ (M − deg) / ((k−1)(k−2))`, `M` the largest degree.  Given a consistent clustering its numerator is
at most `(k − 2)·M` on a loop-free multigraph, and at most the denominator on a simple graph. -/
theorem centralisation_general (n : Nat) (cid : Nat → Nat) (es : List Edge) (c : Nat)
    (hk : (members n cid c).length > 2) :
    let ms := members n cid c
    let k := ms.length
    ∃ z M, (clusterRow (nodesTable n cid es) c).centralisation = some z ∧
      (∀ i ∈ ms, nodeDegree es i ≤ M) ∧ (∃ i ∈ ms, nodeDegree es i = M) ∧
      IsQuot z (((ms.map fun i => M - nodeDegree es i).sum : Nat) : Int) ((k - 1) * (k - 2)) ∧
      z.den = (k - 1) * (k - 2) ∧ 0 ≤ z.num ∧
      (Consistent n cid es → ((∀ e ∈ es, e.1 ≠ e.2) → z.num ≤ ((k - 2 : Nat) : Int) * (M : Int)) ∧
        (Simple es → z.num ≤ z.den)) := by
  intro ms k
  rw [clusterRow_nodesTable]
  obtain ⟨hge, hmem⟩ :=
    maxOf_spec ms (nodeDegree es) (List.ne_nil_of_length_pos (Nat.zero_lt_of_lt hk))
  obtain ⟨hq, h0, h1, h2⟩ := centralisation_spec hk (sum_sub_add ms (nodeDegree es) _ hge)
  exact ⟨_, _, if_pos hk, hge, hmem, hq, rfl, h0, fun hC =>
    ⟨fun hloop => h1 (two_mul_maxdeg_le_sum n cid es c hloop hC),
      fun hS => h2 (two_mul_maxdeg_le_sum n cid es c (simple_no_loop hS) hC) (maxdeg_le n cid es hS hC c)⟩⟩

theorem centralisation_def (n : Nat) (cid : Nat → Nat) (es : List Edge) (c : Nat) :
    let ms := members n cid c
    let k := ms.length
    (k > 2 → ∃ z M, (clusterRow (nodesTable n cid es) c).centralisation = some z ∧
        (∀ i ∈ ms, nodeDegree es i ≤ M) ∧ (∃ i ∈ ms, nodeDegree es i = M) ∧
        IsQuot z (((ms.map fun i => M - nodeDegree es i).sum : Nat) : Int) ((k - 1) * (k - 2)) ∧
        0 ≤ z.num ∧
        (Simple es → Consistent n cid es → (∀ i ∈ ms, 1 ≤ nodeDegree es i) → z.num ≤ z.den)) ∧
    (k ≤ 2 → (clusterRow (nodesTable n cid es) c).centralisation = none) := by
  intro ms k
  refine ⟨fun hk => ?_, fun hk => ?_⟩
  · obtain ⟨z, M, hz, hge, hmem, hq, _, h0, h1⟩ := centralisation_general n cid es c hk
    -- the hypothesis that no member is isolated is not needed
    exact ⟨z, M, hz, hge, hmem, hq, h0, fun hS hC _ => (h1 hC).2 hS⟩
  · rw [clusterRow_nodesTable]
    exact if_neg (Nat.not_lt.mpr hk)

/-! ## The integer relabelling and the way back -/

theorem oldId_newId {order : List Nat} {v k : Nat} (h : newId order v = some k) :
    oldId order k = some v := by
  induction order generalizing k with
  | nil => cases h
  | cons x t ih =>
    rw [newId] at h
    split at h
    · cases h
      exact congrArg some ‹x = v›
    · obtain ⟨k', hk', rfl⟩ := Option.map_eq_some_iff.mp h
      exact ih hk'

theorem newId_isSome_of_mem {order : List Nat} {v : Nat} (h : v ∈ order) :
    ∃ k, newId order v = some k := by
  induction order with
  | nil => simp at h
  | cons x t ih =>
    unfold newId
    by_cases hx : x = v
    · exact ⟨0, by simp [hx]⟩
    · rcases List.mem_cons.mp h with rfl | ht
      · exact absurd rfl hx
      · obtain ⟨k, hk⟩ := ih ht
        exact ⟨k + 1, by simp [hx, hk]⟩

theorem newId_lt {order : List Nat} {v k : Nat} (h : newId order v = some k) : k < order.length :=
  (List.getElem?_eq_some_iff.mp (oldId_newId h)).1

theorem newId_inj {order : List Nat} {a b k : Nat} (ha : newId order a = some k)
    (hb : newId order b = some k) : a = b :=
  Option.some.inj ((oldId_newId ha).symm.trans (oldId_newId hb))

theorem newId_oldId {order : List Nat} (hnd : order.Nodup) {v k : Nat}
    (h : oldId order k = some v) : newId order v = some k := by
  obtain ⟨k', hk'⟩ := newId_isSome_of_mem (List.mem_of_getElem? h)
  have h' := oldId_newId hk'
  rwa [(List.getElem?_inj (List.getElem?_eq_some_iff.mp h').1 hnd).mp (h'.trans h.symm)] at hk'

theorem newId_pi {order : List Nat} {v : Nat} (h : v ∈ order) : newId order v = some (pi order v) := by
  obtain ⟨k, hk⟩ := newId_isSome_of_mem h
  rw [pi, hk]
  rfl

theorem pi_lt {order : List Nat} {v : Nat} (h : v ∈ order) : pi order v < order.length :=
  newId_lt (newId_pi h)

theorem oldId_pi {order : List Nat} {v : Nat} (h : v ∈ order) : oldId order (pi order v) = some v :=
  oldId_newId (newId_pi h)

theorem oldId_of_lt {order : List Nat} {k : Nat} (h : k < order.length) :
    oldId order k = some (order.getD k 0) := by
  rw [oldId, List.getD_eq_getElem?_getD, List.getElem?_eq_getElem h]
  rfl

theorem getD_eq_iff_pi {order : List Nat} (hnd : order.Nodup) {v : Nat} (hv : v ∈ order) {i : Nat}
    (hi : i < order.length) : order.getD i 0 = v ↔ i = pi order v := by
  have hi' := oldId_of_lt hi
  constructor
  · intro h
    exact (List.getElem?_inj hi hnd).mp ((hi'.trans (congrArg some h)).trans (oldId_pi hv).symm)
  · rintro rfl
    exact Option.some.inj (hi'.symm.trans (oldId_pi hv))

theorem pi_inj {order : List Nat} {a b : Nat} (ha : a ∈ order) (hb : b ∈ order)
    (h : pi order a = pi order b) : a = b :=
  Option.some.inj (by rw [← oldId_pi ha, h, oldId_pi hb])

theorem relabel_inj {order : List Nat} {e f : Edge} (he : e.1 ∈ order ∧ e.2 ∈ order)
    (hf : f.1 ∈ order ∧ f.2 ∈ order) (h : relabel order e = relabel order f) : e = f := by
  rw [relabel_eq, relabel_eq, Prod.mk.injEq] at h
  exact Prod.ext (pi_inj he.1 hf.1 h.1) (pi_inj he.2 hf.2 h.2)

theorem relabel_nodup {order : List Nat} {es : List Edge}
    (hmem : ∀ e ∈ es, e.1 ∈ order ∧ e.2 ∈ order) (hnd : es.Nodup) :
    (es.map (relabel order)).Nodup :=
  List.Nodup.map_on (fun x hx y hy h => relabel_inj (hmem x hx) (hmem y hy) h) hnd

theorem back_relabel {order : List Nat} {e : Edge} (he : e.1 ∈ order ∧ e.2 ∈ order) :
    (oldId order (relabel order e).1, oldId order (relabel order e).2) = (some e.1, some e.2) := by
  rw [relabel_eq]
  exact congrArg₂ Prod.mk (oldId_pi he.1) (oldId_pi he.2)

theorem back_inj {order : List Nat} {es : List Edge} (hmem : ∀ e ∈ es, e.1 ∈ order ∧ e.2 ∈ order)
    {p q : Nat × Nat} (hp : p ∈ es.map (relabel order)) (hq : q ∈ es.map (relabel order))
    (h : (oldId order p.1, oldId order p.2) = (oldId order q.1, oldId order q.2)) : p = q := by
  obtain ⟨e, he, rfl⟩ := List.mem_map.mp hp
  obtain ⟨f, hf, rfl⟩ := List.mem_map.mp hq
  rw [back_relabel (hmem e he), back_relabel (hmem f hf)] at h
  simp only [Prod.mk.injEq, Option.some.injEq] at h
  rw [Prod.ext h.1 h.2]

theorem igraphInput_eq (order : List Nat) (es : List Edge)
    (hmem : ∀ e ∈ es, e.1 ∈ order ∧ e.2 ∈ order) :
    igraphInput (edgesForIgraph order es) = some (es.map (relabel order)) := by
  unfold igraphInput edgesForIgraph
  have hall : (es.map fun e => (newId order e.1, newId order e.2)).all
      (fun p => p.1.isSome && p.2.isSome) = true := by
    simp only [List.all_map, List.all_eq_true, Function.comp_def]
    intro e he
    simp [newId_pi (hmem e he).1, newId_pi (hmem e he).2]
  rw [if_pos hall]
  simp [relabel, Function.comp_def]

/-! ## The bridge rows and the final LEFT JOIN -/

/-- With no repeated bridge row the LEFT JOIN yields one row per edge. -/
theorem fullBridges_nodup (es : List Edge) (b : List (Option Nat × Option Nat)) (hb : b.Nodup) :
    fullBridges es b = es.map fun e => (e.1, e.2, decide ((some e.1, some e.2) ∈ b)) := by
  unfold fullBridges
  rw [List.map_eq_flatMap]
  refine List.flatMap_congr fun e _ => ?_
  simp only [List.filter_beq, hb.count]
  split <;> simp [*]

theorem mem_bridgeRows {bridges : List (Nat × Nat) → List Nat} {g : List (Nat × Nat)} {p : Nat × Nat} :
    p ∈ bridgeRows bridges g ↔ ∃ k ∈ bridges g, g[k]? = some p := by
  simp [bridgeRows, List.mem_filterMap]

theorem bridgeRows_subset {bridges : List (Nat × Nat) → List Nat} {g : List (Nat × Nat)}
    {p : Nat × Nat} (hp : p ∈ bridgeRows bridges g) : p ∈ g :=
  let ⟨_, _, hk⟩ := mem_bridgeRows.mp hp
  List.mem_of_getElem? hk

theorem bridgeRows_nodup (bridges : List (Nat × Nat) → List Nat) (g : List (Nat × Nat))
    (hg : g.Nodup) (hB : (bridges g).Nodup) : (bridgeRows bridges g).Nodup :=
  List.Nodup.filterMap (fun _ _ _ h1 h2 =>
    (List.getElem?_inj (List.getElem?_eq_some_iff.mp h1).1 hg).mp (h1.trans h2.symm)) hB

theorem mem_bridgeRows_iff_index {bridges : List (Nat × Nat) → List Nat} {g : List (Nat × Nat)}
    (hg : g.Nodup) {k : Nat} {p : Nat × Nat} (hk : g[k]? = some p) :
    p ∈ bridgeRows bridges g ↔ k ∈ bridges g := by
  rw [mem_bridgeRows]
  constructor
  · rintro ⟨k', hk', hg'⟩
    rwa [← (List.getElem?_inj (List.getElem?_eq_some_iff.mp hg').1 hg).mp (hg'.trans hk.symm)]
  · exact fun h => ⟨k, h, hk⟩

/-! ## Reachability before and after the relabelling -/

/-- The relabelling is an isomorphism onto the relabelled graph (`oldId` maps back), so it
preserves and reflects reachability between records of `order`. -/
theorem reach_relabel_iff (order : List Nat) (es : List Edge)
    (hmem : ∀ e ∈ es, e.1 ∈ order ∧ e.2 ∈ order) {a b : Nat} (ha : a ∈ order) (hb : b ∈ order) :
    Reach (AdjL (es.map (relabel order))) (pi order a) (pi order b) ↔ Reach (AdjL es) a b := by
  constructor
  · intro h
    -- a relabelled edge row maps back to the row it came from
    have hback : ∀ p ∈ es.map (relabel order), ((oldId order p.1).getD 0, (oldId order p.2).getD 0) ∈ es := by
      intro p hp
      obtain ⟨e, he, rfl⟩ := List.mem_map.mp hp
      obtain ⟨h1, h2⟩ := Prod.mk.inj (back_relabel (hmem e he))
      rw [h1, h2]
      exact he
    have := reach_map (adj' := AdjL es) (fun k => (oldId order k).getD 0)
      (fun x y hxy => hxy.imp (hback (x, y)) (hback (y, x))) h
    rwa [oldId_pi ha, oldId_pi hb] at this
  · exact reach_map (pi order) fun _ _ h =>
      h.imp (fun h => List.mem_map.mpr ⟨_, h, relabel_eq order _⟩)
        (fun h => List.mem_map.mpr ⟨_, h, relabel_eq order _⟩)

end SplinkVerif.Lemmas.GM
