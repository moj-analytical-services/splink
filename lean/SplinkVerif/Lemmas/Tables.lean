import SplinkVerif.Model.Tables
import SplinkVerif.Lemmas.Cache
/-!
# Lemmas for C18 (table ownership)

The invariant of the ownership state machine (`Model/Tables.lean`) and its preservation by every operation
under the name discipline `WF` (`inv_of_wf`); `cls` is the classifier of table names that the model calls
`derivedName`.  Every operation either removes tables and dict entries (`inv_shrink`, along `CacheL.Shrinks`),
stores an entry under a templated name, or (re)creates one table under a tag (`inv_setTable`).
-/
namespace SplinkVerif.Lemmas.TablesL
open SplinkVerif SplinkVerif.Tables
open SplinkVerif.Cache hiding State request Op applyOp run init
open SplinkVerif.Lemmas.CacheL (dbGet_isSome_of_mem mem_dbSet mem_cacheSet mem_cacheSet_ne mem_dbDel
  mem_deleteCreated_db request_cases Shrinks shrinks_dropTable shrinks_forgetNamed shrinks_deleteCreated
  shrinks_invalidate)

/-! ## Lookups -/

theorem ownerOf_nil (p : Phys) : ownerOf p [] = .user := rfl

theorem ownerOf_cons_self (p : Phys) (o : Owner) (tags : List (Phys × Owner)) :
    ownerOf p ((p, o) :: tags) = o := by
  simp [ownerOf]

theorem ownerOf_cons_ne {p q : Phys} (h : q ≠ p) (o : Owner) (tags : List (Phys × Owner)) :
    ownerOf q ((p, o) :: tags) = ownerOf q tags := by
  simp [ownerOf, Ne.symm h]

theorem not_nameIn {p : Phys} {U : List (Phys × Nat)} (h : nameIn p U = false) (v : Nat) : (p, v) ∉ U :=
  fun hm => Bool.false_ne_true (h.symm.trans (List.any_eq_true.2 ⟨(p, v), hm, beq_self_eq_true p⟩))

/-- the dict after `register` (repair F24: replacing an existing table forgets the entries pointing at it) -/
def regCache (s : State) (p : Phys) : List (Key × Entry) :=
  if (dbGet p s.base.db).isSome then s.base.cache.filter (fun q => q.2.phys != p) else s.base.cache

theorem register_eq (s : State) (p : Phys) (v : Nat) (ow : Bool) :
    register s p v ow =
      if (dbGet p s.base.db).isSome && !ow then ⟨s, true⟩
      else ⟨{ base := { s.base with db := dbSet p v s.base.db, cache := regCache s p },
              tags := (p, .callerRegistered) :: s.tags }, false⟩ := rfl

theorem register_overwrite (s : State) (p : Phys) (v : Nat) :
    register s p v true =
      ⟨{ base := { s.base with db := dbSet p v s.base.db, cache := regCache s p },
         tags := (p, .callerRegistered) :: s.tags }, false⟩ := by
  rw [register_eq, Bool.not_true, Bool.and_false]
  rfl

theorem mem_regCache {s : State} {p : Phys} {x : Key × Entry} :
    x ∈ regCache s p ↔ x ∈ s.base.cache ∧ ((dbGet p s.base.db).isSome = true → x.2.phys ≠ p) := by
  unfold regCache
  split
  · next h =>
    rw [List.mem_filter, bne_iff_ne]
    exact and_congr_right fun _ => ⟨fun hne _ => hne, fun f => f h⟩
  · next h => exact ⟨fun hx => ⟨hx, fun h' => absurd h' h⟩, (·.1)⟩

/-! ## The invariant -/

section
variable {hash eval : Nat → Nat → Nat} {cls : Phys → Bool} {U : List (Phys × Nat)}

/-- * `uid`     — the DatabaseAPI's cache uid never changes (it is `0` in the model);
* `user`    — every table of the user is in the catalog with its contents, tagged as the user's;
* `tracked` — every catalog table tagged Splink-derived is held by the dict under its own physical name
              with `created_by_splink` (so the bulk deletion finds it);
* `created` — every such dict entry has a name of derived form, and if a table of that name is in the
              catalog it is tagged Splink-derived (so the bulk deletion removes nothing else). -/
structure Inv (cls : Phys → Bool) (U : List (Phys × Nat)) (s : State) : Prop where
  uid : s.base.uid = 0
  user : ∀ p v, (p, v) ∈ U → (p, v) ∈ s.base.db ∧ ownerOf p s.tags = .user
  tracked : ∀ p v, (p, v) ∈ s.base.db → ownerOf p s.tags = .splinkDerived →
    ∃ v', (Key.phys p, (⟨p, v', true⟩ : Entry)) ∈ s.base.cache
  created : ∀ e : Entry, (Key.phys e.phys, e) ∈ s.base.cache → e.createdBySplink = true →
    cls e.phys = true ∧ ∀ v, (e.phys, v) ∈ s.base.db → ownerOf e.phys s.tags = .splinkDerived

theorem inv_attach (cls : Phys → Bool) (U : List (Phys × Nat)) : Inv cls U (attach U) where
  uid := rfl
  user _ _ h := ⟨h, rfl⟩
  tracked _ _ _ ho := nomatch ho
  created _ h := absurd h List.not_mem_nil

theorem user_ne_of_cls (hU : ∀ e ∈ U, cls e.1 = false) {p q : Phys} {v : Nat} (h : (p, v) ∈ U)
    (hq : cls q = true) : p ≠ q :=
  fun he => Bool.false_ne_true ((hU (p, v) h).symm.trans (he ▸ hq))

/-- The tags staying as they are, the base state may lose catalog tables other than the user's. -/
theorem inv_shrink {s : State} (hI : Inv cls U s) {b : Cache.State} (hS : Shrinks s.base b)
    (huser : ∀ x ∈ U, x ∈ s.base.db → x ∈ b.db) : Inv cls U { s with base := b } where
  uid := hS.uid.trans hI.uid
  user p v h := ⟨huser _ h (hI.user p v h).1, (hI.user p v h).2⟩
  tracked p v h ho :=
    have ⟨v', hv'⟩ := hI.tracked p v (hS.db _ h) ho
    ⟨v', hS.keep ⟨p, v', true⟩ v rfl h hv'⟩
  created e h hc :=
    have ⟨h1, h2⟩ := hI.created e (hS.cache _ h) hc
    ⟨h1, fun v hv => h2 v (hS.db _ hv)⟩

theorem inv_setNamed {s : State} (hI : Inv cls U s) (t : Nat) (e' : Entry) :
    Inv cls U { s with base := { s.base with cache := cacheSet (.named t) e' s.base.cache } } where
  uid := hI.uid
  user := hI.user
  tracked p v h ho :=
    have ⟨v', hv'⟩ := hI.tracked p v h ho
    ⟨v', (mem_cacheSet_ne (by nofun)).2 hv'⟩
  created e h := hI.created e ((mem_cacheSet_ne (by nofun)).1 h)

theorem inv_dropDf (hU : ∀ e ∈ U, cls e.1 = false) {s : State} (hI : Inv cls U s) (p : Phys) (c f : Bool)
    (hwf : (if c then cls p else (!f || !nameIn p U)) = true) :
    Inv cls U (dropDf s p c f).state := by
  unfold dropDf
  split
  · exact hI
  · next hcond =>
    have hp : ∀ v, (p, v) ∉ U := by
      intro v hv
      cases c with
      | true => exact user_ne_of_cls hU hv hwf rfl
      | false =>
        cases f with
        | false => exact hcond rfl
        | true => exact not_nameIn (Eq.mp (Bool.not_eq_true' _) hwf) v hv
    exact inv_shrink hI (shrinks_dropTable _ p) fun x hx h => mem_dbDel.2 ⟨h, fun he => hp x.2 (he ▸ hx)⟩

theorem no_derived_after_deleteCreated {s : State} (hI : Inv cls U s) {p : Phys} {v : Nat}
    (h : (p, v) ∈ (Cache.deleteCreated s.base).db) : ownerOf p s.tags ≠ .splinkDerived := by
  intro ho
  obtain ⟨h1, h2⟩ := mem_deleteCreated_db.1 h
  obtain ⟨v', hv'⟩ := hI.tracked p v h1 ho
  exact h2 ⟨p, v', true⟩ hv' rfl rfl

theorem kept_by_deleteCreated {s : State} (hI : Inv cls U s) {p : Phys} {v : Nat}
    (h : (p, v) ∈ s.base.db) (ho : ownerOf p s.tags ≠ .splinkDerived) :
    (p, v) ∈ (Cache.deleteCreated s.base).db :=
  mem_deleteCreated_db.2 ⟨h, fun e he hc (hp : e.phys = p) => ho (hp ▸ (hI.created e he hc).2 v (hp ▸ h))⟩

theorem user_kept_by_deleteCreated {s : State} (hI : Inv cls U s) (x : Phys × Nat) (hx : x ∈ U)
    (h : x ∈ s.base.db) : x ∈ (Cache.deleteCreated s.base).db :=
  kept_by_deleteCreated hI h fun ho => nomatch (hI.user x.1 x.2 hx).2.symm.trans ho

/-- A table `p` that is not the user's is created or replaced and tagged `o`.  The dict `c` afterwards keeps
the entries for other names; an entry it holds for `p` under `p` as created by Splink is there only if `p` has
derived form and `o` is `splinkDerived`, and in that case there is one. -/
theorem inv_setTable {s : State} (hI : Inv cls U s) (p : Phys) (v : Nat) (o : Owner) (c : List (Key × Entry))
    (hp : ∀ w, (p, w) ∉ U)
    (hold : ∀ q v', q ≠ p → (Key.phys q, (⟨q, v', true⟩ : Entry)) ∈ s.base.cache →
      (Key.phys q, (⟨q, v', true⟩ : Entry)) ∈ c)
    (hnew : ∀ e : Entry, (Key.phys e.phys, e) ∈ c → e.createdBySplink = true →
      (Key.phys e.phys, e) ∈ s.base.cache ∧ e.phys ≠ p ∨ e.phys = p ∧ cls p = true ∧ o = .splinkDerived)
    (hown : o = .splinkDerived → ∃ v', (Key.phys p, (⟨p, v', true⟩ : Entry)) ∈ c) :
    Inv cls U { base := { s.base with db := dbSet p v s.base.db, cache := c }, tags := (p, o) :: s.tags } where
  uid := hI.uid
  user q w h := by
    have hne : q ≠ p := fun he => hp w (he ▸ h)
    exact ⟨mem_dbSet.2 (.inr ⟨(hI.user q w h).1, hne⟩), (ownerOf_cons_ne hne o _).trans (hI.user q w h).2⟩
  tracked q w h ho := by
    by_cases hq : q = p
    · subst hq
      exact hown ((ownerOf_cons_self q o _).symm.trans ho)
    · rcases mem_dbSet.1 h with h | ⟨h, _⟩
      · exact absurd (congrArg Prod.fst h) hq
      · obtain ⟨v', hv'⟩ := hI.tracked q w h ((ownerOf_cons_ne hq o _).symm.trans ho)
        exact ⟨v', hold q v' hq hv'⟩
  created e h hc := by
    rcases hnew e h hc with ⟨h, hne⟩ | ⟨he, hcl, ho⟩
    · refine ⟨(hI.created e h hc).1, fun w hw => ?_⟩
      rcases mem_dbSet.1 hw with hw | ⟨hw, _⟩
      · exact absurd (congrArg Prod.fst hw) hne
      · exact (ownerOf_cons_ne hne o _).trans ((hI.created e h hc).2 w hw)
    · rw [he]
      exact ⟨hcl, fun _ _ => (ownerOf_cons_self p o _).trans ho⟩

theorem inv_request (hU : ∀ e ∈ U, cls e.1 = false) {s : State} (hI : Inv cls U s) (r : Req)
    (hcls : cls ⟨r.templ, hash r.text 0⟩ = true) : Inv cls U (request hash eval s r) := by
  unfold request
  rcases request_cases (hash := hash) (eval := eval) s.base r with h | ⟨v, h, _⟩
  · rw [h]
    rw [← hI.uid] at hcls
    refine inv_setTable hI _ _ _ _ (fun w hw => user_ne_of_cls hU hw hcls rfl)
      (fun _ _ hq h => mem_cacheSet.2 (.inr ⟨h, fun hk => hq (Key.phys.inj hk)⟩)) (fun e he hc => ?_)
      fun _ => ⟨_, mem_cacheSet.2 (.inl rfl)⟩
    · rcases mem_cacheSet.1 he with he | ⟨he, hne⟩
      · exact .inr ⟨congrArg (·.2.phys) he, hcls, rfl⟩
      · exact .inl ⟨he, fun hp => hne (congrArg Key.phys hp)⟩
  · rw [h]
    exact hI

theorem inv_register {s : State} (hI : Inv cls U s) (p : Phys) (v : Nat) (ow : Bool)
    (hcls : cls p = false) (how : ow = true → nameIn p U = false) :
    Inv cls U (register s p v ow).state := by
  rw [register_eq]
  split
  · exact hI
  · next hcond =>
    refine inv_setTable hI p v _ _ (fun w hw => ?_) (fun _ _ hq h => mem_regCache.2 ⟨h, fun _ => hq⟩)
      (fun e he hc => .inl ⟨(mem_regCache.1 he).1, fun hp => ?_⟩) nofun
    · cases ow with
      | true => exact not_nameIn (how rfl) w hw
      | false =>
        apply hcond
        rw [dbGet_isSome_of_mem (hI.user p w hw).1]
        rfl
    · exact Bool.false_ne_true (hcls.symm.trans (hp ▸ (hI.created e (mem_regCache.1 he).1 hc).1))

theorem wf_split {ops : List Op} (h : WF hash cls U ops = true) :
    (∀ e ∈ U, cls e.1 = false) ∧ ∀ op ∈ ops, wfOp hash cls U op = true := by
  unfold WF at h
  rw [Bool.and_eq_true, List.all_eq_true, List.all_eq_true] at h
  exact ⟨fun e he => Eq.mp (Bool.not_eq_true' _) (h.1 e he), h.2⟩

theorem inv_applyOp (hU : ∀ e ∈ U, cls e.1 = false) {s : State} (hI : Inv cls U s) (op : Op)
    (hwf : wfOp hash cls U op = true) : Inv cls U (applyOp hash eval s op) := by
  cases op with
  | req r => exact inv_request hU hI r hwf
  | setNamed t e => exact inv_setNamed hI t e
  | register p v ow =>
    obtain ⟨h1, h2⟩ := Bool.and_eq_true_iff.1 (hwf : (!cls p && (!ow || !nameIn p U)) = true)
    refine inv_register hI p v ow (Eq.mp (Bool.not_eq_true' _) h1) fun h => ?_
    subst h
    exact Eq.mp (Bool.not_eq_true' _) h2
  | dropDf p c f => exact inv_dropDf hU hI p c f hwf
  | forgetNamed t => exact inv_shrink hI (shrinks_forgetNamed _ t) fun _ _ h => h
  | deleteCreated => exact inv_shrink hI (shrinks_deleteCreated _) (user_kept_by_deleteCreated hI)
  | invalidate => exact inv_shrink hI (shrinks_invalidate _) (user_kept_by_deleteCreated hI)

theorem inv_run (hU : ∀ e ∈ U, cls e.1 = false) (ops : List Op) {s : State} (hI : Inv cls U s)
    (hwf : ∀ op ∈ ops, wfOp hash cls U op = true) : Inv cls U (run hash eval s ops) :=
  List.foldlRecOn ops _ hI fun _ h op hop => inv_applyOp hU h op (hwf op hop)

theorem inv_of_wf (ops : List Op) (h : WF hash cls U ops = true) :
    Inv cls U (run hash eval (attach U) ops) :=
  inv_run (wf_split h).1 ops (inv_attach cls U) (wf_split h).2

end

/-- C18, user tables are untouched: the `user` clause of the invariant along a history satisfying `WF`. -/
theorem user_tables_untouched (hash eval : Nat → Nat → Nat) (cls : Phys → Bool) (U : List (Phys × Nat))
    (ops : List Op) (h : WF hash cls U ops = true) (p : Phys) (v : Nat) (hp : (p, v) ∈ U) :
    (p, v) ∈ (run hash eval (attach U) ops).base.db ∧
      ownerOf p (run hash eval (attach U) ops).tags = .user :=
  (inv_of_wf ops h).user p v hp

end SplinkVerif.Lemmas.TablesL
