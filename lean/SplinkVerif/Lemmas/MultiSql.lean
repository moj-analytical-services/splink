import Mathlib.Data.List.Nodup
import Mathlib.Data.List.Perm.Basic
import SplinkVerif.Lemmas.CCSql
import SplinkVerif.Lemmas.MultiThreshold
import SplinkVerif.Properties.C05Sql
import SplinkVerif.Model.MultiSql
/-!
# The regenerated SQL of one pass of the threshold loop refines `MultiThreshold.next`

Statement by statement, the relational-algebra terms of `Generated/MultiSql.lean` (evaluated with `Rel.eval`) compute
the tables of `Model/MultiThreshold.lean`; the marginal clustering is `CCSql.cluster` on a node subset
(`Lemmas.CCSql.cluster_core`); the control flow of `Model/MultiSql.lean` follows `MultiThreshold.loop`.
-/
namespace SplinkVerif.C11Sql

/-- `>=` on integer order keys. -/
def geInt (a b : Int) : Bool := decide (a ≥ b)

end SplinkVerif.C11Sql

namespace SplinkVerif.Lemmas.MultiSql
open SplinkVerif SplinkVerif.Rel SplinkVerif.Lemmas.Rel SplinkVerif.Gen.MultiSql
open SplinkVerif.Lemmas.CCSql (iv iv_inj nodeRowsS mem_nodeRowsS mem_edgeRows in_subVals notIn_subVals)
open SplinkVerif.C11Sql (geInt IsClustering)

theorem geInt_iff (a b : Int) : geInt a b = true ↔ b ≤ a := by
  unfold geInt
  simp

/-- A result row `(node_id, cluster_id)`. -/
abbrev pairRow := C05Sql.pairRow

theorem pairRow_def (p : Nat × Nat) : pairRow p = [iv p.1, iv p.2] := rfl

theorem pairRow_eq : (C05Sql.pairRow : Nat × Nat → Row) = Lemmas.CCSql.pairRow := rfl

/-- Evaluate scalar expressions on concrete rows. -/
macro "ev_simp" : tactic =>
  `(tactic| simp [Expr.holds, Expr.eval, List.getD_cons_zero, List.getD_cons_succ])
macro "ev_simp" "at" h:ident : tactic =>
  `(tactic| simp [Expr.holds, Expr.eval, List.getD_cons_zero, List.getD_cons_succ] at $h:ident)

/-! ## `min` over integers and NULLs -/

/-- `coalesce(min(p), one) >= tNew` on a group whose integers are exactly the members of `ps`
(the right-hand side is that of `MT.isStable_iff`). -/
theorem having_iff {vals : List Val} {ps : List Int} (one tNew : Int) (h : ∀ v ∈ vals, IntOrNull v)
    (hps : ∀ k, Val.int k ∈ vals ↔ k ∈ ps) :
    (Cmp.ge.eval (match minVals vals with | .null => Val.int one | v => v) (Val.int tNew) = .bool true) ↔
      (ps = [] → geInt one tNew = true) ∧ ∀ p ∈ ps, geInt p tNew = true := by
  simp only [geInt_iff]
  rcases minVals_spec h with ⟨h1, h2⟩ | ⟨m, h1, h2, h3⟩
  · have hnil : ps = [] := List.eq_nil_iff_forall_not_mem.mpr fun k hk => h2 k ((hps k).mpr hk)
    rw [h1, hnil]
    simp only [cmp_ge_int, Val.bool.injEq, decide_eq_true_eq]
    exact ⟨fun h => ⟨fun _ => h, fun _ hp => nomatch hp⟩, fun h => h.1 trivial⟩
  · have hm : m ∈ ps := (hps m).mp h2
    rw [h1]
    simp only [cmp_ge_int, Val.bool.injEq, decide_eq_true_eq]
    exact ⟨fun hle => ⟨fun e => absurd e (List.ne_nil_of_mem hm), fun p hp => Int.le_trans hle (h3 p ((hps p).mpr hp))⟩,
      fun h => h.2 m hm⟩

/-! ## The statements before the marginal clustering -/

/-- `__splink__relevant_edges` ↔ the model's `edges.filter (ge p tPrev)`. -/
theorem relevantEdges_mem (edges : List (Nat × Nat × Int)) (tPrev : Int) (db : Db)
    (hE : (db "edges_in").Perm (CCSql.edgeRows edges)) (row : Row) :
    row ∈ (relevantEdges (Val.int tPrev)).eval db ↔
      ∃ a b k, (a, b, k) ∈ edges ∧ geInt k tPrev = true ∧ row = [iv a, iv b, Val.int k] := by
  simp only [relevantEdges, mem_filter, eval_table, hE.mem_iff, mem_edgeRows]
  constructor
  · rintro ⟨⟨a, b, k, he, rfl⟩, hh⟩
    ev_simp at hh
    exact ⟨a, b, k, he, (geInt_iff _ _).mpr hh, rfl⟩
  · rintro ⟨a, b, k, he, hk, rfl⟩
    refine ⟨⟨a, b, k, he, rfl⟩, ?_⟩
    ev_simp
    exact (geInt_iff _ _).mp hk

/-- What is needed of `__splink__cluster_edge_probabilities`. -/
structure CepSpec (cc : List (Nat × Nat)) (edges : List (Nat × Nat × Int)) (tPrev : Int) (T : List Row) :
    Prop where
  /-- every row belongs to a cluster and carries NULL or the probability of a relevant edge at a member -/
  sound : ∀ row ∈ T, ∃ i c v, (i, c) ∈ cc ∧ row = [iv c, v] ∧ (v = Val.null ∨
    ∃ a b k, (a, b, k) ∈ edges ∧ geInt k tPrev = true ∧ (a = i ∨ b = i) ∧ v = Val.int k)
  /-- every relevant edge at a member contributes its probability -/
  edge : ∀ i c a b k, (i, c) ∈ cc → (a, b, k) ∈ edges → geInt k tPrev = true → (a = i ∨ b = i) →
    [iv c, Val.int k] ∈ T
  /-- every cluster has a group (the LEFT JOIN keeps clusters without edges) -/
  group : ∀ i c, (i, c) ∈ cc → ∃ row ∈ T, row.getD 0 .null = iv c

/-- One `LEFT JOIN` branch of `__splink__cluster_edge_probabilities`: `e` is the column of
`__splink__relevant_edges` that is joined to `nid`, `side` the endpoint it holds. -/
theorem cepBranch_mem (cc : List (Nat × Nat)) (edges : List (Nat × Nat × Int)) (tPrev : Int) (e : Expr)
    (side : Nat × Nat → Nat)
    (he : ∀ i c a b k, e.eval [iv i, iv c, iv a, iv b, Val.int k] = iv (side (a, b))) (A B : List Row)
    (hA : ∀ row, row ∈ A ↔ ∃ i c, (i, c) ∈ cc ∧ row = [iv i, iv c])
    (hB : ∀ row, row ∈ B ↔
      ∃ a b k, (a, b, k) ∈ edges ∧ geInt k tPrev = true ∧ row = [iv a, iv b, Val.int k]) (row : Row) :
    row ∈ (joinRows true (Expr.cmp Cmp.eq (Expr.col 0) e) A B 3).map
        (fun x => [Expr.col 1, Expr.col 4].map (·.eval x)) ↔
      ∃ i c, (i, c) ∈ cc ∧
        ((∃ a b k, (a, b, k) ∈ edges ∧ geInt k tPrev = true ∧ side (a, b) = i ∧ row = [iv c, Val.int k]) ∨
          ((∀ a b k, (a, b, k) ∈ edges → geInt k tPrev = true → side (a, b) ≠ i) ∧
            row = [iv c, Val.null])) := by
  have hon : ∀ i c a b k, (Expr.cmp Cmp.eq (Expr.col 0) e).holds
      ([iv i, iv c] ++ [iv a, iv b, Val.int k]) = true ↔ side (a, b) = i := by
    intro i c a b k
    simp only [Expr.holds, Expr.eval, List.cons_append, List.nil_append, he, List.getD_cons_zero, cmp_eq_int,
      beq_iff_eq, Val.bool.injEq, decide_eq_true_eq, Int.natCast_inj]
    exact eq_comm
  simp only [List.mem_map, mem_joinRows_left]
  constructor
  · rintro ⟨x, ⟨ra, hra, h⟩, rfl⟩
    obtain ⟨i, c, hic, rfl⟩ := (hA _).mp hra
    refine ⟨i, c, hic, ?_⟩
    rcases h with ⟨rb, hrb, hh, rfl⟩ | ⟨hnone, rfl⟩
    · obtain ⟨a, b, k, he', hk, rfl⟩ := (hB _).mp hrb
      exact Or.inl ⟨a, b, k, he', hk, (hon i c a b k).mp hh, rfl⟩
    · refine Or.inr ⟨fun a b k he' hk hs => ?_, rfl⟩
      have := hnone _ ((hB _).mpr ⟨a, b, k, he', hk, rfl⟩)
      rw [(hon i c a b k).mpr hs] at this
      cases this
  · rintro ⟨i, c, hic, ⟨a, b, k, he', hk, hs, rfl⟩ | ⟨hnone, rfl⟩⟩
    · exact ⟨_, ⟨_, (hA _).mpr ⟨i, c, hic, rfl⟩,
        Or.inl ⟨_, (hB _).mpr ⟨a, b, k, he', hk, rfl⟩, (hon i c a b k).mpr hs, rfl⟩⟩, rfl⟩
    · refine ⟨_, ⟨_, (hA _).mpr ⟨i, c, hic, rfl⟩, Or.inr ⟨fun rb hrb => ?_, rfl⟩⟩, rfl⟩
      obtain ⟨a, b, k, he', hk, rfl⟩ := (hB _).mp hrb
      exact Bool.eq_false_iff.mpr fun hh => hnone a b k he' hk ((hon i c a b k).mp hh)

theorem clusterEdgeProbabilities_spec (cc : List (Nat × Nat)) (edges : List (Nat × Nat × Int)) (tPrev : Int)
    (db : Db) (hcc : (db "cc").Perm (cc.map pairRow))
    (hrel : ∀ row, row ∈ db "__splink__relevant_edges" ↔
      ∃ a b k, (a, b, k) ∈ edges ∧ geInt k tPrev = true ∧ row = [iv a, iv b, Val.int k]) :
    CepSpec cc edges tPrev (clusterEdgeProbabilities.eval db) := by
  have hA : ∀ row, row ∈ db "cc" ↔ ∃ i c, (i, c) ∈ cc ∧ row = [iv i, iv c] := by
    intro row
    rw [hcc.mem_iff, List.mem_map]
    constructor
    · rintro ⟨⟨i, c⟩, h, rfl⟩; exact ⟨i, c, h, rfl⟩
    · rintro ⟨i, c, h, rfl⟩; exact ⟨(i, c), h, rfl⟩
  have hL := cepBranch_mem cc edges tPrev (Expr.col 2) Prod.fst (fun _ _ _ _ _ => rfl) _ _ hA hrel
  have hR := cepBranch_mem cc edges tPrev (Expr.col 3) Prod.snd (fun _ _ _ _ _ => rfl) _ _ hA hrel
  have key : ∀ row, row ∈ clusterEdgeProbabilities.eval db ↔ _ := fun row => by
    rw [clusterEdgeProbabilities, eval_union_all, List.mem_append, eval_project, eval_project, eval_join,
      eval_join, eval_table, eval_table, hL, hR]
  refine ⟨fun row hrow => ?_, fun i c a b k hic he hk hab => (key _).mpr ?_, fun i c hic => ?_⟩
  · rcases (key row).mp hrow with ⟨i, c, hic, h⟩ | ⟨i, c, hic, h⟩
    · rcases h with ⟨a, b, k, he, hk, hs, rfl⟩ | ⟨_, rfl⟩
      · exact ⟨i, c, _, hic, rfl, Or.inr ⟨a, b, k, he, hk, Or.inl hs, rfl⟩⟩
      · exact ⟨i, c, _, hic, rfl, Or.inl rfl⟩
    · rcases h with ⟨a, b, k, he, hk, hs, rfl⟩ | ⟨_, rfl⟩
      · exact ⟨i, c, _, hic, rfl, Or.inr ⟨a, b, k, he, hk, Or.inr hs, rfl⟩⟩
      · exact ⟨i, c, _, hic, rfl, Or.inl rfl⟩
  · rcases hab with hs | hs
    · exact Or.inl ⟨i, c, hic, Or.inl ⟨a, b, k, he, hk, hs, rfl⟩⟩
    · exact Or.inr ⟨i, c, hic, Or.inl ⟨a, b, k, he, hk, hs, rfl⟩⟩
  · by_cases hex : ∃ a b k, (a, b, k) ∈ edges ∧ geInt k tPrev = true ∧ a = i
    · obtain ⟨a, b, k, he, hk, hs⟩ := hex
      exact ⟨_, (key _).mpr (Or.inl ⟨i, c, hic, Or.inl ⟨a, b, k, he, hk, hs, rfl⟩⟩), rfl⟩
    · exact ⟨_, (key _).mpr (Or.inl ⟨i, c, hic,
        Or.inr ⟨fun a b k he hk hs => hex ⟨a, b, k, he, hk, hs⟩, rfl⟩⟩), rfl⟩

/-- `__splink__stable_clusters_at_new_threshold` ↔ `MultiThreshold.isStable`. -/
theorem stableClusters_mem (cc : List (Nat × Nat)) (edges : List (Nat × Nat × Int)) (tPrev tNew one : Int)
    (db : Db) (hcep : CepSpec cc edges tPrev (db "__splink__cluster_edge_probabilities")) (row : Row) :
    row ∈ (stableClustersAtNewThreshold (Val.int one) (Val.int tNew)).eval db ↔
      ∃ c, (∃ i, (i, c) ∈ cc) ∧ MultiThreshold.isStable geInt one cc edges tPrev tNew c = true ∧
        row = [iv c] := by
  -- the HAVING clause on the group of a row `x` of cluster `c`
  have key : ∀ x ∈ db "__splink__cluster_edge_probabilities", ∀ c, x.getD 0 .null = iv c →
      ((Expr.cmp Cmp.ge (Expr.coalesce (Expr.col 1) (Expr.lit (Val.int one))) (Expr.lit (Val.int tNew))).holds
        ([Expr.col 0].map (·.eval x) ++ [Agg.min (Expr.col 1)].map
          (·.eval ((db "__splink__cluster_edge_probabilities").filter fun y =>
            [Expr.col 0].map (·.eval y) == [Expr.col 0].map (·.eval x)))) = true ↔
        MultiThreshold.isStable geInt one cc edges tPrev tNew c = true) := by
    intro x _ c hxc
    simp only [List.map_cons, List.map_nil, Expr.eval, hxc, Agg.eval, List.cons_append, List.nil_append,
      Expr.holds, List.getD_cons_zero, List.getD_cons_succ, beq_iff_eq]
    rw [Lemmas.MT.isStable_iff]
    apply having_iff
    · intro v hv
      obtain ⟨y, hy, rfl⟩ := List.mem_map.mp hv
      obtain ⟨i', c', v, _, rfl, h⟩ := hcep.sound y (List.mem_filter.mp hy).1
      exact h.imp id fun ⟨_, _, k, _, _, _, h⟩ => ⟨k, h⟩
    · intro k
      rw [Lemmas.MT.mem_clusterEdgeProbs, List.mem_map]
      constructor
      · rintro ⟨y, hy, hyk⟩
        obtain ⟨hy1, hy2⟩ := List.mem_filter.mp hy
        obtain ⟨i', c', v, hic, rfl, h⟩ := hcep.sound y hy1
        have hc' : iv c' = iv c := by simpa using hy2
        cases iv_inj.mp hc'
        obtain rfl : v = Val.int k := hyk
        obtain h | ⟨a, b, k', he, hk, hab, h⟩ := h
        · cases h
        · cases h
          exact ⟨i', a, b, hic, he, hk, hab⟩
      · rintro ⟨i, a, b, hic, he, hk, hab⟩
        refine ⟨[iv c, Val.int k], List.mem_filter.mpr ⟨hcep.edge i c a b k hic he hk hab, ?_⟩, rfl⟩
        simp
  simp only [stableClustersAtNewThreshold, mem_project, mem_filter, eval_groupBy, eval_table,
    mem_groupRows (show [Expr.col 0] ≠ [] by simp)]
  constructor
  · rintro ⟨g, ⟨⟨x, hx, rfl⟩, hh⟩, rfl⟩
    obtain ⟨i, c, v, hic, rfl, _⟩ := hcep.sound x hx
    exact ⟨c, ⟨i, hic⟩, (key _ hx c rfl).mp hh, rfl⟩
  · rintro ⟨c, ⟨i, hic⟩, hst, rfl⟩
    obtain ⟨x, hx, hxc⟩ := hcep.group i c hic
    refine ⟨_, ⟨⟨x, hx, rfl⟩, (key x hx c hxc).mpr hst⟩, ?_⟩
    simp only [List.map_cons, List.map_nil, Expr.eval, hxc, List.cons_append, List.getD_cons_zero]

/-- `__splink__stable_nodes_at_new_threshold` ↔ `MultiThreshold.stableNodes`. -/
theorem stableNodes_perm (n : Nat) (cc : List (Nat × Nat)) (edges : List (Nat × Nat × Int))
    (tPrev tNew one : Int) (db : Db) (hcc : (db "cc").Perm (cc.map pairRow))
    (hsc : ∀ row, row ∈ db "__splink__stable_clusters_at_new_threshold" ↔
      ∃ c, (∃ i, (i, c) ∈ cc) ∧ MultiThreshold.isStable geInt one cc edges tPrev tNew c = true ∧
        row = [iv c]) :
    (stableNodesAtNewThreshold.eval db).Perm
      ((MultiThreshold.stableNodes geInt one n edges cc tPrev tNew).map pairRow) := by
  rw [Lemmas.MT.stableNodes_eq]
  refine whereIn_map cc pairRow _ false (Expr.col 1) _ _ db hcc ?_
  rintro ⟨i, c⟩ hic
  refine in_subVals _ 0 c _ ⟨?_, fun h => ⟨[iv c], (hsc _).mpr ⟨c, ⟨i, hic⟩, h, rfl⟩, rfl⟩⟩
  rintro ⟨row, hrow, h⟩
  obtain ⟨c', _, hst, rfl⟩ := (hsc row).mp hrow
  cases iv_inj.mp h
  exact hst

/-- `__splink__nodes_in_play` ↔ the nodes satisfying `MultiThreshold.inPlay`. -/
theorem nodesInPlay_perm (n : Nat) (sn : List (Nat × Nat)) (db : Db)
    (hN : (db "nodes_in").Perm (CCSql.nodeRows n))
    (hsn : (db "__splink__stable_nodes_at_new_threshold").Perm (sn.map pairRow)) :
    (nodesInPlay.eval db).Perm (nodeRowsS ((List.range n).filter (MultiThreshold.inPlay n sn).get)) := by
  refine whereIn_map (List.range n) (fun (i : Nat) => [iv i]) _ true (Expr.col 0) _ _ db hN fun i _ => ?_
  refine notIn_subVals _ 0 i _ (fun row hrow => ?_) ?_
  · obtain ⟨r, _, rfl⟩ := List.mem_map.mp (hsn.mem_iff.mp hrow)
    nofun
  · unfold MultiThreshold.inPlay
    rw [Tab.get_build, Bool.not_eq_false', List.any_eq_true]
    constructor
    · rintro ⟨row, hrow, h⟩
      obtain ⟨r, hr, rfl⟩ := List.mem_map.mp (hsn.mem_iff.mp hrow)
      exact ⟨r, hr, beq_iff_eq.mpr (iv_inj.mp h)⟩
    · rintro ⟨r, hr, h⟩
      exact ⟨pairRow r, hsn.mem_iff.mpr (List.mem_map.mpr ⟨r, hr, rfl⟩), congrArg iv (beq_iff_eq.mp h)⟩

/-- `__splink__edges_in_play` ↔ `MultiThreshold.edgesInPlay`. -/
theorem edgesInPlay_perm (n : Nat) (ip : Nat → Bool) (edges : List (Nat × Nat × Int)) (db : Db)
    (hEn : ∀ e ∈ edges, e.1 < n ∧ e.2.1 < n)
    (hE : (db "edges_in").Perm (CCSql.edgeRows edges))
    (hnip : (db "__splink__nodes_in_play").Perm (nodeRowsS ((List.range n).filter ip))) :
    (edgesInPlay.eval db).Perm (CCSql.edgeRows (MultiThreshold.edgesInPlay ip edges)) := by
  have hmem : ∀ a, a < n → (inVals (iv a) (((db "__splink__nodes_in_play").map
      fun row => [Expr.col 0].map (·.eval row)).map fun row => row.getD 0 .null) == .bool true) = ip a := by
    intro a ha
    refine in_subVals _ 0 a _ ⟨?_, fun h => ⟨[iv a], hnip.mem_iff.mpr (mem_nodeRowsS.mpr ⟨a, ?_, rfl⟩), rfl⟩⟩
    · rintro ⟨row, hrow, h⟩
      obtain ⟨j, hj, rfl⟩ := mem_nodeRowsS.mp (hnip.mem_iff.mp hrow)
      cases iv_inj.mp h
      exact (List.mem_filter.mp hj).2
    · exact List.mem_filter.mpr ⟨List.mem_range.mpr ha, h⟩
  unfold edgesInPlay
  have h1 := whereIn_map edges _ (fun e => ip e.1) false (Expr.col 0)
    (Rel.project [Expr.col 0] (Rel.table "__splink__nodes_in_play")) (Rel.table "edges_in") db hE
    (fun e he => hmem e.1 (hEn e he).1)
  refine (whereIn_map _ _ (fun e : Nat × Nat × Int => ip e.2.1) false (Expr.col 1)
    (Rel.project [Expr.col 0] (Rel.table "__splink__nodes_in_play")) _ db h1
    (fun e he => hmem e.2.1 (hEn e (List.mem_filter.mp he).1).2)).trans (List.Perm.of_eq ?_)
  rw [List.filter_filter]
  exact congrArg _ (List.filter_congr fun e _ => Bool.and_comm _ _)

/-! ## The statements of one pass, in sequence -/

theorem runStmts_cons (db : Db) (s : Stmt) (ss : List Stmt) :
    runStmts db (s :: ss) = runStmts (Db.set db s.name (s.rel.eval db)) ss := rfl

/-- The marginal clustering ↔ `MultiThreshold.ccAt` on the nodes in play. -/
theorem marginal_perm (n : Nat) (edges : List (Nat × Nat × Int)) (ip : Nat → Bool) (tNew : Int)
    (hEn : ∀ e ∈ edges, e.1 < n ∧ e.2.1 < n) (nodes edgeTab : List Row)
    (hN : nodes.Perm (nodeRowsS ((List.range n).filter ip)))
    (hT : edgeTab.Perm (CCSql.edgeRows (MultiThreshold.edgesInPlay ip edges))) :
    (CCSql.cluster nodes edgeTab (some (Val.int tNew)) (CC.fuel n)).Perm
      ((MultiThreshold.ccAt geInt n ip (MultiThreshold.edgesInPlay ip edges) tNew).map pairRow) := by
  have hS : ((List.range n).filter ip).Nodup := List.nodup_range.filter _
  have hSn : ∀ i ∈ (List.range n).filter ip, i < n :=
    fun i hi => List.mem_range.mp (List.mem_filter.mp hi).1
  have hES : ∀ e ∈ MultiThreshold.edgesInPlay ip edges,
      e.1 ∈ (List.range n).filter ip ∧ e.2.1 ∈ (List.range n).filter ip := by
    intro e he
    obtain ⟨h1, h2⟩ := List.mem_filter.mp he
    simp only [Bool.and_eq_true] at h2
    exact ⟨List.mem_filter.mpr ⟨List.mem_range.mpr (hEn e h1).1, h2.1⟩,
      List.mem_filter.mpr ⟨List.mem_range.mpr (hEn e h1).2, h2.2⟩⟩
  have hcore := Lemmas.CCSql.cluster_core n _ (MultiThreshold.edgesInPlay ip edges) (some tNew) hS hSn hES
    nodes edgeTab hN hT
  -- `C05Sql.kept` is `CC.thresholdEdges geInt` by definition; on the model's rows `contains` is `ip`
  refine hcore.trans (List.Perm.of_eq (congrArg (List.map pairRow) ?_))
  unfold MultiThreshold.ccAt
  apply List.filter_congr
  rintro ⟨i, c⟩ hic
  have hlt := Lemmas.thresholdEdges_lt geInt (some tNew) n _ (Lemmas.MT.edgesInPlay_lt ip n edges hEn)
  have hi := (Lemmas.mem_cluster n _ hlt i c hic).1
  apply Lists.contains_eq_of_mem_iff
  rw [List.mem_filter, List.mem_range]
  exact ⟨fun h => h.2, fun h => ⟨hi, h⟩⟩

theorem project01_pairRow (l : List (Nat × Nat)) :
    ((l.map pairRow).map fun row => [Expr.col 0, Expr.col 1].map (·.eval row)) = l.map pairRow := by
  rw [List.map_map]
  apply List.map_congr_left
  intro p _
  simp [pairRow_def, Expr.eval]

/-- `__splink__clusters_at_threshold`: the rows that were kept, then those of the marginal clustering. -/
theorem clustersAtThreshold_perm (sn m : List (Nat × Nat)) (db : Db)
    (hsn : (db "__splink__stable_nodes_at_new_threshold").Perm (sn.map pairRow))
    (hm : (db "marginal").Perm (m.map pairRow)) :
    (clustersAtThreshold.eval db).Perm ((sn ++ m).map pairRow) := by
  unfold clustersAtThreshold
  rw [eval_union_all, eval_project, eval_project, eval_table, eval_table, List.map_append]
  exact ((hsn.map _).trans (List.Perm.of_eq (project01_pairRow sn))).append
    ((hm.map _).trans (List.Perm.of_eq (project01_pairRow m)))

/-- **One pass of the threshold loop refines the model**, with the previous clustering given up to row order. -/
theorem step_perm_gen (n : Nat) (edges : List (Nat × Nat × Int)) (cc : List (Nat × Nat)) (ccRows : List Row)
    (tPrev tNew one : Int) (hE : ∀ e ∈ edges, e.1 < n ∧ e.2.1 < n) (hcc : ccRows.Perm (cc.map pairRow)) :
    (MultiSql.step (CCSql.nodeRows n) (CCSql.edgeRows edges) ccRows
        (Val.int tPrev) (Val.int tNew) (Val.int one) (CC.fuel n)).Perm
      ((MultiThreshold.next geInt one n edges cc tPrev tNew).map pairRow) := by
  obtain ⟨h6, h5, h4, -⟩ := runStmts_meets (before (Val.int tPrev) (Val.int tNew) (Val.int one))
    [fun T => ∀ row, row ∈ T ↔
       ∃ a b k, (a, b, k) ∈ edges ∧ geInt k tPrev = true ∧ row = [iv a, iv b, Val.int k],
     CepSpec cc edges tPrev,
     fun T => ∀ row, row ∈ T ↔ ∃ c, (∃ i, (i, c) ∈ cc) ∧
       MultiThreshold.isStable geInt one cc edges tPrev tNew c = true ∧ row = [iv c],
     fun T => T.Perm ((MultiThreshold.stableNodes geInt one n edges cc tPrev tNew).map pairRow),
     fun T => T.Perm (nodeRowsS ((List.range n).filter
       (MultiThreshold.inPlay n (MultiThreshold.stableNodes geInt one n edges cc tPrev tNew)).get)),
     fun T => T.Perm (CCSql.edgeRows (MultiThreshold.edgesInPlay
       (MultiThreshold.inPlay n (MultiThreshold.stableNodes geInt one n edges cc tPrev tNew)).get edges))]
    [("nodes_in", fun T => T.Perm (CCSql.nodeRows n)), ("edges_in", fun T => T.Perm (CCSql.edgeRows edges)),
     ("cc", fun T => T.Perm (cc.map pairRow))]
    (Db.set (Db.set (Db.set CCSql.emptyDb "nodes_in" (CCSql.nodeRows n)) "edges_in" (CCSql.edgeRows edges))
      "cc" ccRows) (by simp [before])
    ⟨by simp only [set_apply, String.reduceEq, ↓reduceIte]; exact List.Perm.refl _,
     by simp only [set_apply, String.reduceEq, ↓reduceIte]; exact List.Perm.refl _,
     by simpa only [set_apply, String.reduceEq, ↓reduceIte] using hcc, trivial⟩
    ⟨fun db ⟨_, hEd, _⟩ => relevantEdges_mem edges tPrev db hEd,
     fun db ⟨hrel, _, _, hc, _⟩ => clusterEdgeProbabilities_spec cc edges tPrev db hc hrel,
     fun db ⟨hcep, _⟩ => stableClusters_mem cc edges tPrev tNew one db hcep,
     fun db ⟨hsc, _, _, _, _, hc, _⟩ => stableNodes_perm n cc edges tPrev tNew one db hc hsc,
     fun db ⟨hsn, _, _, _, hN, _⟩ => nodesInPlay_perm n _ db hN hsn,
     fun db ⟨hnip, _, _, _, _, _, hEd, _⟩ => edgesInPlay_perm n _ edges db hE hEd hnip, trivial⟩
  simp only [MultiSql.step]
  generalize runStmts _ _ = db at h4 h5 h6 ⊢
  refine clustersAtThreshold_perm _ _ _ ?_ ?_
  · simpa only [set_ne, ne_eq, String.reduceEq, not_false_eq_true] using h4
  · simpa only [set_same] using marginal_perm n edges _ tNew hE _ _ h5 h6

/-- The loop, with the previous clustering given up to row order. -/
theorem loop_perm_model (n : Nat) (edges : List (Nat × Nat × Int)) (one : Int)
    (hE : ∀ e ∈ edges, e.1 < n ∧ e.2.1 < n) (ts : List Int) :
    ∀ (cc : List (Nat × Nat)) (ccRows : List Row) (tPrev : Int), ccRows.Perm (cc.map pairRow) →
      List.Forall₂ (fun (sqlRows : List Row) (m : Int × List (Nat × Nat)) => sqlRows.Perm (m.2.map C05Sql.pairRow))
        (MultiSql.loop (CCSql.nodeRows n) (CCSql.edgeRows edges) (Val.int one) (CC.fuel n) ccRows (Val.int tPrev)
          (ts.map Val.int))
        (MultiThreshold.loop geInt one n edges cc tPrev ts) := by
  induction ts with
  | nil => intro cc ccRows tPrev _; exact List.Forall₂.nil
  | cons t ts ih =>
    intro cc ccRows tPrev hcc
    have hstep := step_perm_gen n edges cc ccRows tPrev t one hE hcc
    simp only [List.map_cons, MultiSql.loop, MultiThreshold.loop]
    exact List.Forall₂.cons hstep (ih _ _ t hstep)

/-- Non-vacuity: one pass of the SQL pipeline on a concrete graph (path 0–1–2 with keys 9, 5; isolated node 3; from
threshold 2 to threshold 6, `one` = 10): the cluster {0,1,2} is not stable and is re-clustered, node 3 stays. -/
example : MultiSql.step (CCSql.nodeRows 4) (CCSql.edgeRows [(0, 1, 9), (1, 2, 5)])
      ([(0, 0), (1, 0), (2, 0), (3, 3)].map C05Sql.pairRow) (Val.int 2) (Val.int 6) (Val.int 10) (CC.fuel 4)
    = (MultiThreshold.next geInt 10 4 [(0, 1, 9), (1, 2, 5)] [(0, 0), (1, 0), (2, 0), (3, 3)] 2 6).map
        C05Sql.pairRow := by decide +kernel

end SplinkVerif.Lemmas.MultiSql
