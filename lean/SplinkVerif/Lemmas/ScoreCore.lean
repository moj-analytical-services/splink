import SplinkVerif.Model.Score
/-!
# `Model/Score.lean` at every number type

The equations of `gamma` level by level, then which level is assigned (`gamma_eq_some_iff`) and that one is
(`gamma_total`); what `product` and `probOf` do with finite and with infinite factors.  No Mathlib:
`Lemmas/Score.lean` specialises to `ℝ`, `Properties/C02Sql.lean` to `ℚ`.
-/
namespace SplinkVerif.Lemmas.Score
open SplinkVerif SplinkVerif.Score

variable {α : Type}

/-! ## Level selection, one level at a time -/

theorem gamma_cons_else {l : Level α} (ls : Comparison α) (gs : List B3) (h : l.isElse = true) :
    gamma (l :: ls) gs = some l.cvv := by
  unfold gamma
  exact if_pos h

theorem gamma_cons_nil {l : Level α} (ls : Comparison α) (h : l.isElse = false) :
    gamma (l :: ls) [] = none := by
  rw [gamma, h]
  rfl

theorem gamma_cons_cons {l : Level α} (ls : Comparison α) (g : B3) (gs : List B3)
    (h : l.isElse = false) :
    gamma (l :: ls) (g :: gs) = if B3.isTrue g then some l.cvv else gamma ls gs := by
  rw [gamma, h]
  rfl

/-! ## Level selection as a whole -/

theorem gamma_first_true {α : Type} (c : Comparison α) (gs : List B3) (k : Nat) (l : Level α)
    (hk : c[k]? = some l)
    (hfire : l.isElse = true ∨ ∃ g, gs[k]? = some g ∧ B3.isTrue g = true)
    (hprev : ∀ j l', j < k → c[j]? = some l' →
      l'.isElse = false ∧ ∃ g, gs[j]? = some g ∧ B3.isTrue g = false) :
    gamma c gs = some l.cvv := by
  induction c generalizing gs k with
  | nil => cases hk
  | cons l0 ls ih =>
    cases k with
    | zero =>
      cases hk
      cases he : l.isElse with
      | true => exact gamma_cons_else ls gs he
      | false =>
        obtain h | ⟨g, hg, ht⟩ := hfire
        · rw [he] at h
          cases h
        · cases gs with
          | nil => cases hg
          | cons g0 gs' =>
            cases hg
            rw [gamma_cons_cons ls g gs' he, if_pos ht]
    | succ k =>
      obtain ⟨h0, g, hg, hgf⟩ := hprev 0 l0 (Nat.succ_pos k) rfl
      cases gs with
      | nil => cases hg
      | cons g0 gs' =>
        cases hg
        rw [gamma_cons_cons ls g gs' h0, if_neg (Bool.eq_false_iff.mp hgf)]
        exact ih gs' k hk hfire fun j l' hj hl' => hprev (j + 1) l' (Nat.succ_lt_succ hj) hl'

/-- The assigned value is that of the first level that fires (`gamma_first_true`), and of nothing else. -/
theorem gamma_eq_some_iff (c : Comparison α) (gs : List B3) (v : Int) :
    gamma c gs = some v ↔ ∃ (k : Nat) (l : Level α), c[k]? = some l ∧ l.cvv = v ∧
      (l.isElse = true ∨ ∃ g, gs[k]? = some g ∧ B3.isTrue g = true) ∧
      ∀ (j : Nat) (l' : Level α), j < k → c[j]? = some l' →
        l'.isElse = false ∧ ∃ g, gs[j]? = some g ∧ B3.isTrue g = false := by
  refine ⟨fun h => ?_, fun ⟨k, l, hk, hv, hfire, hprev⟩ => hv ▸ gamma_first_true c gs k l hk hfire hprev⟩
  -- along the definition: no level; an `ELSE` level; no guard left; the guard is TRUE; it is not
  fun_induction gamma c gs with
  | case1 => cases h
  | case2 l0 ls gs he =>
    exact ⟨0, l0, rfl, Option.some.inj h, Or.inl he, fun j _ hj => absurd hj (Nat.not_lt_zero j)⟩
  | case3 => cases h
  | case4 l0 ls _ g gs ht =>
    exact ⟨0, l0, rfl, Option.some.inj h, Or.inr ⟨g, rfl, ht⟩, fun j _ hj => absurd hj (Nat.not_lt_zero j)⟩
  | case5 l0 ls he g gs hf ih =>
    obtain ⟨k, l, hk, hv, hfire, hprev⟩ := ih h
    refine ⟨k + 1, l, hk, hv, hfire, fun j l' hj hl' => ?_⟩
    cases j with
    | zero =>
      cases hl'
      exact ⟨Bool.eq_false_iff.mpr he, g, rfl, Bool.eq_false_iff.mpr hf⟩
    | succ j => exact hprev j l' (Nat.lt_of_succ_lt_succ hj) hl'

theorem gamma_mem (c : Comparison α) (gs : List B3) (v : Int)
    (h : gamma c gs = some v) : ∃ l ∈ c, l.cvv = v :=
  have ⟨_, l, hk, hv, _⟩ := (gamma_eq_some_iff c gs v).mp h
  ⟨l, List.mem_of_getElem? hk, hv⟩

theorem gamma_total (c : Comparison α) (gs : List B3)
    (helse : ∃ l ∈ c, l.isElse = true) (hlen : c.length ≤ gs.length) :
    (gamma c gs).isSome = true := by
  fun_induction gamma c gs with
  | case1 =>
    obtain ⟨_, h, _⟩ := helse
    cases h
  | case2 => rfl
  | case3 => cases hlen
  | case4 => rfl
  | case5 l0 ls he g gs _ ih =>
    -- the `ELSE` level is not the head, so it is further down
    obtain ⟨l', hl', hl'e⟩ := helse
    rcases List.mem_cons.mp hl' with rfl | hmem
    · exact absurd hl'e he
    · exact ih ⟨l', hmem, hl'e⟩ (Nat.le_of_succ_le_succ hlen)

variable [Num α]

/-! ## The product of the terms -/

/-- One step of the fold in `product`. -/
def step (acc t : Option (Fac α)) : Option (Fac α) :=
  match acc, t with
  | some a, some b => some (Fac.mul a b)
  | _, _ => none

theorem product_eq (prior : α) (ts : List (Option (Fac α))) :
    product prior ts = ts.foldl step (some (Fac.fin (priorOdds prior))) := rfl

theorem product_map_fin (prior : α) (xs : List α) :
    product prior (xs.map fun x => some (Fac.fin x)) =
      some (Fac.fin (xs.foldl Num.mul (priorOdds prior))) := by
  rw [product_eq]
  generalize priorOdds prior = a
  induction xs generalizing a with
  | nil => rfl
  | cons x xs ih => exact ih (Num.mul a x)

/-- Once the running product is infinite it stays so, as long as no term is NULL. -/
theorem foldl_step_inf (ts : List (Option (Fac α))) (hall : ∀ t ∈ ts, t ≠ none) :
    ts.foldl step (some Fac.inf) = some Fac.inf := by
  induction ts with
  | nil => rfl
  | cons t ts ih =>
    cases t with
    | none => exact absurd rfl (hall none List.mem_cons_self)
    | some f => exact ih fun t ht => hall t (List.mem_cons_of_mem _ ht)

/-- An infinite term makes the product infinite wherever it stands, as long as no term is NULL. -/
theorem product_of_inf_mem (prior : α) (ts : List (Option (Fac α))) (hall : ∀ t ∈ ts, t ≠ none)
    (hinf : some Fac.inf ∈ ts) : product prior ts = some Fac.inf := by
  rw [product_eq]
  generalize Fac.fin (priorOdds prior) = acc
  induction ts generalizing acc with
  | nil => cases hinf
  | cons t ts ih =>
    have hall' : ∀ t ∈ ts, t ≠ none := fun t ht => hall t (List.mem_cons_of_mem _ ht)
    cases t with
    | none => exact absurd rfl (hall none List.mem_cons_self)
    | some f =>
      rw [List.foldl_cons]
      rcases List.mem_cons.mp hinf with h | h
      · cases h
        have : step (some acc) (some Fac.inf) = some Fac.inf := by cases acc <;> rfl
        rw [this, foldl_step_inf ts hall']
      · exact ih hall' h _

/-! ## The probability -/

theorem probOf_of_inf_mem {ts : List (Option (Fac α))} (h : some Fac.inf ∈ ts) (bf : Fac α) :
    probOf ts bf = Num.one :=
  if_pos (List.any_eq_true.mpr ⟨_, h, rfl⟩)

theorem probOf_of_finite {ts : List (Option (Fac α))}
    (hfin : ∀ t ∈ ts, ∀ f, t = some f → f.isInf = false) (bf : α) :
    probOf ts (Fac.fin bf) = Num.div bf (Num.add Num.one bf) := by
  refine if_neg fun hany => ?_
  obtain ⟨t, ht, hf⟩ := List.any_eq_true.mp hany
  cases t with
  | none => cases hf
  | some f => exact Bool.false_ne_true ((hfin _ ht f rfl).symm.trans hf)

end SplinkVerif.Lemmas.Score
