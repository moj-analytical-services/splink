import SplinkVerif.Model.ArithNum
/-!
# The number interface `ANum` at a number type

Facts that hold at every instance whose operations are the ones of the number type (`Lemmas.BA.instANumRat`,
`Lemmas.Est.instANumReal`).
-/
namespace SplinkVerif.ANum

theorem sum_eq {α : Type} [ANum α] [Zero α] [Add α] [Std.Associative (α := α) (· + ·)]
    [Std.LawfulIdentity (· + ·) (0 : α)] (hadd : ∀ a b : α, ANum.add a b = a + b)
    (h0 : (ANum.ofNat 0 : α) = 0) (xs : List α) : ANum.sum xs = xs.sum := by
  rw [ANum.sum, h0, show (ANum.add : α → α → α) = (· + ·) from funext fun a => funext (hadd a)]
  exact List.sum_eq_foldl.symm

end SplinkVerif.ANum
