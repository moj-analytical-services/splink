import SplinkVerif.Model.Creators
/-!
# Lemmas for C17 (creators as state machines)

What a run of writes (`runWrites`) and a sequence of calls (`callSeq`) do to one attribute: it keeps its value or holds
what a firing write to it stored (`*_cases`), so it keeps its value if no write names it (`run_frame`); runs of stateless writes
forget the start state on every attribute they assign (`run_agree`), so the outputs of a stateless creator are those of a
fresh one (`callSeq_outputs`).
-/
namespace SplinkVerif.Lemmas.Creators
open SplinkVerif.Creators

theorem written_indep (d : Dialect) (w : Write) (h : w.kind ≠ .selfDependent) (v1 v2 : Val) :
    written d w v1 = written d w v2 := by
  unfold written
  split
  · rfl
  · rfl
  · exact absurd ‹_› h

theorem written_pure (d : Dialect) (w : Write) (h : w.kind ≠ .selfDependent) (v : Val) :
    (written d w v).isPure = true := by
  unfold written
  split
  · rfl
  · rfl
  · exact absurd ‹_› h

theorem written_slot (d : Dialect) (w : Write) (h : w.kind = .dialectSlot) (v : Val) :
    written d w v = .dial d := by
  unfold written
  rw [h]

/-- Two runs of stateless writes agree on an attribute as soon as the start states agree on it or it is
assigned during the run. -/
theorem run_agree (fires : Dialect → Write → Bool) (d : Dialect) :
    ∀ (ws : List Write) (s1 s2 : State) (a : Attr), Stateless ws →
      (s1 a = s2 a ∨ ∃ w ∈ ws, w.attr = a ∧ fires d w = true) →
      runWrites fires d ws s1 a = runWrites fires d ws s2 a
  | [], s1, s2, a, _, h => by
    rcases h with h | ⟨w, hw, _⟩
    · simpa [runWrites] using h
    · cases hw
  | w :: ws, s1, s2, a, hst, h => by
    have ih := run_agree fires d ws (applyWrite fires d s1 w) (applyWrite fires d s2 w) a
      (fun w' hw' => hst w' (List.mem_cons_of_mem _ hw'))
    simp only [runWrites, List.foldl_cons] at ih ⊢
    apply ih
    by_cases hf : fires d w = true ∧ a = w.attr
    · left
      simp only [applyWrite, hf, and_self, if_true]
      exact written_indep d w (hst w (List.mem_cons_self ..)) _ _
    · rcases h with h | ⟨w', hw', ha, hfw⟩
      · left
        simp only [applyWrite, hf, if_false]
        exact h
      · rcases List.mem_cons.mp hw' with e | hin
        · subst e
          exact absurd ⟨hfw, ha.symm⟩ hf
        · right
          exact ⟨w', hin, ha, hfw⟩

/-- A run leaves an attribute alone or ends with the value one of its firing writes to that attribute stored. -/
theorem run_cases (fires : Dialect → Write → Bool) (d : Dialect) :
    ∀ (ws : List Write) (s : State) (a : Attr), runWrites fires d ws s a = s a ∨
      ∃ w ∈ ws, w.attr = a ∧ fires d w = true ∧ ∃ v, runWrites fires d ws s a = written d w v
  | [], _, _ => Or.inl rfl
  | w :: ws, s, a => by
    have ih := run_cases fires d ws (applyWrite fires d s w) a
    simp only [runWrites, List.foldl_cons] at ih ⊢
    rcases ih with ih | ⟨w', hw', h⟩
    · rw [ih]
      by_cases hf : fires d w = true ∧ a = w.attr
      · exact Or.inr ⟨w, List.mem_cons_self .., hf.2.symm, hf.1, s a, by simp only [applyWrite, hf, and_self, if_true]⟩
      · exact Or.inl (by simp only [applyWrite, hf, if_false])
    · exact Or.inr ⟨w', List.mem_cons_of_mem _ hw', h⟩

theorem run_frame (fires : Dialect → Write → Bool) (d : Dialect) (ws : List Write) (s : State) (a : Attr)
    (h : a ∉ ws.map (·.attr)) : runWrites fires d ws s a = s a :=
  (run_cases fires d ws s a).resolve_right fun ⟨_, hw, ha, _⟩ => h (ha ▸ List.mem_map_of_mem hw)

theorem callSeq_outputs {β : Type} (c : Creator) (obs : Dialect → State → β)
    (hs : Stateless c.writes) (hl : Local c obs) :
    ∀ (ds : List Dialect) (s : State), (∀ a, a ∉ c.attrs → s a = fresh a) →
      (c.callSeq obs s ds).2 = ds.map (fun d => obs d (c.call fresh d))
  | [], _, _ => rfl
  | d :: ds, s, hinv => by
    have hinv' : ∀ a, a ∉ c.attrs → c.call s d a = fresh a := fun a ha =>
      (run_frame c.fires d c.writes s a ha).trans (hinv a ha)
    simp only [Creator.callSeq, List.map_cons]
    rw [callSeq_outputs c obs hs hl ds (c.call s d) hinv']
    congr 1
    apply hl
    intro a ha
    exact run_agree c.fires d c.writes s fresh a hs (ha.imp (hinv a) id)

theorem callSeq_cases {β : Type} (c : Creator) (obs : Dialect → State → β) :
    ∀ (ds : List Dialect) (s : State) (a : Attr), (c.callSeq obs s ds).1 a = s a ∨
      ∃ d ∈ ds, ∃ w ∈ c.writes, w.attr = a ∧ c.fires d w = true ∧ ∃ v, (c.callSeq obs s ds).1 a = written d w v
  | [], _, _ => Or.inl rfl
  | d :: ds, s, a => by
    simp only [Creator.callSeq]
    rcases callSeq_cases c obs ds (c.call s d) a with h | ⟨d', hd', h⟩
    · rw [h]
      exact (run_cases c.fires d c.writes s a).imp id fun h2 => ⟨d, List.mem_cons_self .., h2⟩
    · exact Or.inr ⟨d', List.mem_cons_of_mem _ hd', h⟩

theorem wrap_ne (m : String) : ∀ v : Val, Val.wrap m v ≠ v
  | .init _ => nofun
  | .dial _ => nofun
  | .const _ _ _ => nofun
  | .wrap m' v => by
    intro h
    injection h with h1 h2
    subst h1
    exact wrap_ne m v h2

theorem stateless_rowsOf (table : List Write) (cls : String)
    (h : ∀ w ∈ table, w.kind = .selfDependent → w.cls ≠ cls) : Stateless (rowsOf table cls) := by
  intro w hw hk
  simp only [rowsOf, List.mem_filter, decide_eq_true_eq] at hw
  exact h w hw.1 hk hw.2

end SplinkVerif.Lemmas.Creators
