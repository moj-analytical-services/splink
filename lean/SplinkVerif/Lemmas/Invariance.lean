import SplinkVerif.Lemmas.Blocking
import SplinkVerif.Lemmas.CC
/-!
# Lemmas for C13 (invariance under re-presentation) — blocking and clustering

Blocking: the rows of `block` depend on the table and the rules only through what `Blk.mem_block_congr` names, so a
re-presentation that preserves those preserves the output.  Clustering: a relabelling of the nodes is a graph
isomorphism, and clusters are characterised by reachability (`same_cluster_iff_reach`, `cluster_is_min_reachable`).
-/
namespace SplinkVerif.Lemmas.Inv
open SplinkVerif SplinkVerif.Blocking SplinkVerif.Lemmas.Blk

/-! ## Transport of a table and of rules along a relabelling of record indices -/

/-- The table whose record `i` is record `σ i` of `t` (records listed in another order). -/
def transportTable (t : Table) (σ : Nat → Nat) : Table :=
  { m := t.m, key := fun i => t.key (σ i), sd := fun i => t.sd (σ i),
    part := fun i n => t.part (σ i) n }

/-- The same rule, seen on the re-listed records. -/
def transportRule (σ : Nat → Nat) (q : Rule) : Rule :=
  { kind := q.kind, eval := fun l r => q.eval (σ l) (σ r) }

theorem saltOK_transport (t : Table) (rules : List Rule) (σ : Nat → Nat)
    (hσ : ∀ i, i < t.m → σ i < t.m) (h : SaltOK t rules) :
    SaltOK (transportTable t σ) (rules.map (transportRule σ)) := by
  intro r hr n hk
  obtain ⟨q, hq, rfl⟩ := List.mem_map.mp hr
  obtain ⟨h1, h2⟩ := h q hq n hk
  exact ⟨h1, fun i hi => h2 (σ i) (hσ i hi)⟩

/-! ## Rule reordering -/

theorem exists_holds_iff (rules : List Rule) (l r : Nat) :
    (∃ i, holds rules i l r) ↔ ∃ q ∈ rules, B3.isTrue (q.eval l r) = true :=
  ⟨fun ⟨_, q, hq, ht⟩ => ⟨q, List.mem_of_getElem? hq, ht⟩,
    fun ⟨q, hq, ht⟩ => (List.getElem?_of_mem hq).elim fun i hi => ⟨i, q, hi, ht⟩⟩

theorem block_rule_reorder (lt : LinkType) (t : Table) (rules rules' : List Rule)
    (hlt : SelfJoin lt) (hsalt : SaltOK t rules) (hp : rules.Perm rules') (l r : Nat) :
    (∃ i, (i, l, r) ∈ block lt t rules) ↔ (∃ i, (i, l, r) ∈ block lt t rules') := by
  by_cases hne : rules = []
  · subst hne
    cases hp.symm.eq_nil
    exact Iff.rfl
  · have hne' : rules' ≠ [] := fun h => hne (by subst h; exact hp.eq_nil)
    have hsalt' : SaltOK t rules' := fun q hq => hsalt q (hp.mem_iff.mpr hq)
    rw [exists_mem_block lt t rules hlt hne hsalt, exists_mem_block lt t rules' hlt hne' hsalt']
    simp only [exists_holds_iff, hp.mem_iff]

/-! ## Other salts, other unique ids -/

/-- Same records, ids and source datasets; another assignment of salts. -/
def withPart (t : Table) (part : Nat → Nat → Nat) : Table := { t with part := part }

def withKey (t : Table) (key : Nat → Nat) : Table := { t with key := key }

theorem whereCond_withPart (lt : LinkType) (t : Table) (part : Nat → Nat → Nat) (l r : Nat) :
    whereCond lt (withPart t part) l r = whereCond lt t l r := by
  cases lt <;> rfl

theorem whereCond_withKey_of_strictMono (lt : LinkType) (t : Table) (f : Nat → Nat)
    (hf : ∀ a b, a < b → f a < f b) (l r : Nat) :
    whereCond lt (withKey t fun i => f (t.key i)) l r = whereCond lt t l r := by
  have hiff : ∀ a b, (f a < f b) ↔ a < b := fun a b =>
    ⟨fun h => Nat.lt_of_not_le fun hba => (Nat.lt_or_eq_of_le hba).elim
      (fun h' => Nat.lt_asymm h (hf b a h')) (fun e => Nat.lt_irrefl _ (e ▸ h)), hf a b⟩
  cases lt <;> simp [whereCond, withKey, hiff]

theorem rulePairs_congr (lt : LinkType) (t t' : Table) (pre : List Done) (rule : Rule)
    (hm : t'.m = t.m) (hsd : t'.sd = t.sd) (hpart : t'.part = t.part)
    (hw : ∀ l r, whereCond lt t' l r = whereCond lt t l r) :
    rulePairs lt t' pre rule = rulePairs lt t pre rule := by
  have hmin : minSd t' = minSd t := by
    unfold minSd
    rw [hm, hsd]
  have hL : leftTable lt t' = leftTable lt t := by
    unfold leftTable
    cases lt <;> simp only [hm, hsd, hmin]
  have hR : rightTable lt t' = rightTable lt t := by
    unfold rightTable
    cases lt <;> simp only [hm, hsd, hmin]
  unfold rulePairs
  cases rule.kind <;> simp only [hL, hR, hw, hm, hsd, hpart]

/-- `blockFrom` reads the ids through the link-type clause only. -/
theorem blockFrom_congr (lt : LinkType) (t t' : Table)
    (hm : t'.m = t.m) (hsd : t'.sd = t.sd) (hpart : t'.part = t.part)
    (hw : ∀ l r, whereCond lt t' l r = whereCond lt t l r) :
    ∀ (rules : List Rule) (pre : List Done), blockFrom lt t' pre rules = blockFrom lt t pre rules := by
  intro rules
  induction rules with
  | nil =>
    intro pre
    rfl
  | cons q rest ih =>
    intro pre
    simp only [blockFrom, rulePairs_congr lt t t' pre q hm hsd hpart hw, ih]

/-! ## Arbitrary new ids under symmetric rules -/

def SymRules (rules : List Rule) : Prop := ∀ q ∈ rules, ∀ l r, q.eval l r = q.eval r l

theorem holds_symm {rules : List Rule} (hs : SymRules rules) (i l r : Nat) :
    holds rules i l r ↔ holds rules i r l := by
  unfold holds
  constructor <;>
  · rintro ⟨q, hq, ht⟩
    exact ⟨q, hq, by rw [hs q (List.mem_of_getElem? hq)] at ht; exact ht⟩

theorem holds_least_symm {rules : List Rule} (hs : SymRules rules) (i l r : Nat) :
    (holds rules i l r ∧ ∀ j, j < i → ¬ holds rules j l r) ↔ (holds rules i r l ∧ ∀ j, j < i → ¬ holds rules j r l) :=
  and_congr (holds_symm hs i l r)
    (forall_congr' fun j => imp_congr_right fun _ => not_congr (holds_symm hs j l r))

/-- Orientation-free characterisation of the output for symmetric rules: it does not mention the
order of the keys at all. -/
theorem mem_block_unordered (lt : LinkType) (t : Table) (rules : List Rule)
    (hlt : SelfJoin lt) (hne : rules ≠ []) (hsalt : SaltOK t rules) (hwf : WFKeys t)
    (hs : SymRules rules) (i l r : Nat) :
    ((i, l, r) ∈ block lt t rules ∨ (i, r, l) ∈ block lt t rules) ↔
      l < t.m ∧ r < t.m ∧ l ≠ r ∧ (lt = .linkOnly → t.sd l ≠ t.sd r) ∧
        holds rules i l r ∧ ∀ j, j < i → ¬ holds rules j l r := by
  simp only [mem_block lt t rules hlt hne hsalt]
  constructor
  · rintro (⟨h1, h2, hw, hf⟩ | ⟨h1, h2, hw, hf⟩)
    · obtain ⟨hk, hsd⟩ := (whereCond_iff hlt t l r).1 hw
      exact ⟨h1, h2, fun e => Nat.lt_irrefl _ (e ▸ hk), hsd, hf⟩
    · obtain ⟨hk, hsd⟩ := (whereCond_iff hlt t r l).1 hw
      exact ⟨h2, h1, fun e => Nat.lt_irrefl _ (e ▸ hk), fun e h' => hsd e h'.symm, (holds_least_symm hs i r l).1 hf⟩
  · rintro ⟨h1, h2, hlr, hsd, hf⟩
    rcases whereCond_total hlt hwf h1 h2 hlr hsd with h | h
    · exact Or.inl ⟨h1, h2, h, hf⟩
    · exact Or.inr ⟨h2, h1, h, (holds_least_symm hs i l r).1 hf⟩

/-! ## Clustering under a relabelling of the nodes -/

open SplinkVerif.CC

def mapEdges (σ : Nat → Nat) (edges : List Edge) : List Edge := edges.map fun e => (σ e.1, σ e.2)

theorem mapEdges_bound (n : Nat) (edges : List Edge) (σ : Nat → Nat)
    (hE : ∀ e ∈ edges, e.1 < n ∧ e.2 < n) (hσ : ∀ i, i < n → σ i < n) :
    ∀ e ∈ mapEdges σ edges, e.1 < n ∧ e.2 < n := by
  intro e he
  obtain ⟨e0, he0, rfl⟩ := List.mem_map.mp he
  exact ⟨hσ _ (hE e0 he0).1, hσ _ (hE e0 he0).2⟩

theorem adj_map (n : Nat) (edges : List Edge) (σ : Nat → Nat) (hσ : ∀ i, i < n → σ i < n)
    (a b : Nat) (h : Adj n edges a b) : Adj n (mapEdges σ edges) (σ a) (σ b) :=
  ⟨hσ a h.1, hσ b h.2.1, h.2.2.imp (fun h => List.mem_map.mpr ⟨(a, b), h, rfl⟩)
    (fun h => List.mem_map.mpr ⟨(b, a), h, rfl⟩)⟩

theorem adj_unmap (n : Nat) (edges : List Edge) (σ τ : Nat → Nat)
    (hE : ∀ e ∈ edges, e.1 < n ∧ e.2 < n) (hτ : ∀ i, i < n → τ i < n)
    (hτσ : ∀ i, i < n → τ (σ i) = i)
    (a b : Nat) (h : Adj n (mapEdges σ edges) a b) : Adj n edges (τ a) (τ b) := by
  have back : ∀ {x y}, (x, y) ∈ mapEdges σ edges → (τ x, τ y) ∈ edges := by
    intro x y h
    obtain ⟨e, he, heq⟩ := List.mem_map.mp h
    cases heq
    rw [hτσ _ (hE e he).1, hτσ _ (hE e he).2]
    exact he
  exact ⟨hτ a h.1, hτ b h.2.1, h.2.2.imp back back⟩

theorem reach_iso (n : Nat) (edges : List Edge) (σ τ : Nat → Nat)
    (hE : ∀ e ∈ edges, e.1 < n ∧ e.2 < n)
    (hσ : ∀ i, i < n → σ i < n) (hτ : ∀ i, i < n → τ i < n)
    (hτσ : ∀ i, i < n → τ (σ i) = i) (i j : Nat) (hi : i < n) (hj : j < n) :
    Reach (Adj n (mapEdges σ edges)) (σ i) (σ j) ↔ Reach (Adj n edges) i j := by
  constructor
  · intro h
    have := reach_map (adj' := Adj n edges) τ (adj_unmap n edges σ τ hE hτ hτσ) h
    rwa [hτσ i hi, hτσ j hj] at this
  · exact reach_map σ (adj_map n edges σ hσ)

end SplinkVerif.Lemmas.Inv
