import SplinkVerif.Lemmas.EMBridge
import SplinkVerif.Lemmas.EMSums
import Mathlib.Algebra.BigOperators.Fin
import Mathlib.Tactic.NormNum
/-!
# Bridge: the executable M-step (`EM.step`) is the abstract EM step (`EML.emStep`)

At `ℝ`, for parameters whose level-level fix flags are all off.  `step_comps` reduces `EM.step`
to `newLevel` applied level by level.  The rows become abstract data (`rowPatterns`,
`rowWeights`, index set `Fin rows.length`) on which the executable group sums, window sums and
`eraseDups` group list are `EML.cnt`, `EML.den`, `EML.lamNew` and `EML.Observed`.  This gives the
step position by position (`newLevel_eq_absStep`), the monotonicity (`execLogLik_mono`) of the
log-likelihood `execLogLik`, which is defined from the executable model alone, and the step as a
literal equality on the canonical abstraction (`absParamsC_step`).

Where a list is indexed by a `Fin`, the bound is written out (`xs[i.val]'i.isLt`): leaving it to
the index tactic is slow to check.
-/
namespace SplinkVerif.Lemmas.EMMBridge
open SplinkVerif SplinkVerif.Score SplinkVerif.Lemmas.Score
open SplinkVerif.Lemmas SplinkVerif.Lemmas.EMBridge SplinkVerif.Lemmas.EM

/-! ## List sums and products as sums and products over `Fin` -/

theorem sum_filter_map_fin {β : Type} (xs : List β) (p : β → Bool) (f : β → ℝ) :
    ((xs.filter p).map f).sum = ∑ j : Fin xs.length with p (xs[j.val]'j.isLt) = true, f (xs[j.val]'j.isLt) := by
  have e : ((xs.filter p).map f).sum = (xs.map fun x => if p x = true then f x else 0).sum := by
    simp [List.sum_map_ite]
  rw [e, ← Fin.sum_univ_fun_getElem, Finset.sum_filter]

theorem sum_map_fin {β : Type} (xs : List β) (f : β → ℝ) :
    (xs.map f).sum = ∑ j : Fin xs.length, f (xs[j.val]'j.isLt) :=
  (Fin.sum_univ_fun_getElem xs f).symm

/-- `Finset.range n` is `List.range n` underneath, so the two sides of `Finset.prod_range` are
these by unfolding. -/
theorem prod_map_range (n : ℕ) (f : ℕ → ℝ) :
    ((List.range n).map f).prod = ∏ i : Fin n, f i.val :=
  Finset.prod_range f

/-! ## What `EM.step` does to the list of comparisons -/

/-- What `updateLevel` stores in a level whose level-level fix flags are off: the null
level is untouched; otherwise `m` (`u`) stays when the session fixes it, else it becomes the
looked-up proportion, or the `LEVEL_NOT_OBSERVED` value 1e-6 when the look-up fails. -/
noncomputable def newLevel (sess : EM.Session) (θ : EM.Params ℝ) (rows : List (EM.Row ℝ)) (ci : ℕ)
    (l : Level ℝ) : Level ℝ :=
  if l.isNull then l else
    { l with
      m := if sess.fixM then l.m else (EM.newM θ rows ci l.cvv).getD (1 / 1000000)
      u := if sess.fixU then l.u else (EM.newU θ rows ci l.cvv).getD (1 / 1000000) }

section newLevel
variable (sess : EM.Session) (θ : EM.Params ℝ) (rows : List (EM.Row ℝ)) (ci : ℕ)

theorem updateLevel_fst (l : Level ℝ) (st : EM.LevelState) (hfm : st.fixM = false)
    (hfu : st.fixU = false) :
    (EM.updateLevel sess θ rows ci l st).1 = newLevel sess θ rows ci l := by
  rw [updateLevel_eq]
  unfold newLevel
  cases l.isNull
  · simp only [Bool.false_eq_true, if_false, hfm, hfu, Bool.false_or, apply_ite Prod.fst]
    cases EM.newM θ rows ci l.cvv <;> cases EM.newU θ rows ci l.cvv <;>
      simp only [notObservedValue_eq, Option.getD_some, Option.getD_none]
  · rfl

theorem newLevel_cvv (l : Level ℝ) : (newLevel sess θ rows ci l).cvv = l.cvv := by
  unfold newLevel; split <;> rfl

theorem newLevel_isElse (l : Level ℝ) : (newLevel sess θ rows ci l).isElse = l.isElse := by
  unfold newLevel; split <;> rfl

theorem newLevel_isNull (l : Level ℝ) : (newLevel sess θ rows ci l).isNull = l.isNull := by
  unfold newLevel; split <;> rfl

theorem newLevel_tf (l : Level ℝ) : (newLevel sess θ rows ci l).tf = l.tf := by
  unfold newLevel; split <;> rfl

theorem newLevel_m {l : Level ℝ} (hn : l.isNull = false) :
    (newLevel sess θ rows ci l).m =
      if sess.fixM then l.m else (EM.newM θ rows ci l.cvv).getD (1 / 1000000) := by
  unfold newLevel; rw [hn]; rfl

theorem newLevel_u {l : Level ℝ} (hn : l.isNull = false) :
    (newLevel sess θ rows ci l).u =
      if sess.fixU then l.u else (EM.newU θ rows ci l.cvv).getD (1 / 1000000) := by
  unfold newLevel; rw [hn]; rfl

theorem newLevel_null (l : Level ℝ) (h : l.isNull = true) : newLevel sess θ rows ci l = l := by
  unfold newLevel; rw [if_pos h]

end newLevel

/-- `θ.states` has a state for every level of `θ.comps` and no more; otherwise `zipWith3Idx` in
`EM.step` truncates -/
def SameShape (θ : EM.Params ℝ) : Prop :=
  θ.states.map List.length = θ.comps.map List.length

/-- no level has `fix_m_probability` or `fix_u_probability` set -/
def LevelFlagsOff (θ : EM.Params ℝ) : Prop :=
  ∀ sts ∈ θ.states, ∀ st ∈ sts, st.fixM = false ∧ st.fixU = false

theorem sameShape_length {θ : EM.Params ℝ} (h : SameShape θ) :
    θ.states.length = θ.comps.length := by
  have := congrArg List.length h
  simpa using this

theorem sameShape_getElem {θ : EM.Params ℝ} (h : SameShape θ) (i : ℕ) (h1 : i < θ.states.length)
    (h2 : i < θ.comps.length) : (θ.states[i]).length = (θ.comps[i]).length := by
  have e : (θ.states.map List.length)[i]'(by simpa using h1) =
      (θ.comps.map List.length)[i]'(by simpa using h2) := by
    simp only [SameShape] at h
    simp only [h]
  simpa using e

theorem step_comps (sess : EM.Session) (θ : EM.Params ℝ) (rows : List (EM.Row ℝ))
    (hshape : SameShape θ) (hflags : LevelFlagsOff θ) :
    (EM.step sess θ rows).comps =
      θ.comps.mapIdx fun ci c => c.map (newLevel sess θ rows ci) := by
  have hlen := sameShape_length hshape
  apply List.ext_getElem
  · rw [length_step_comps sess θ rows hlen.symm, List.length_mapIdx]
  · intro c h1 h2
    have hc : c < θ.comps.length := by simpa using h2
    have hs : c < θ.states.length := by omega
    have hl := sameShape_getElem hshape c hs hc
    simp only [EM.step, EM.zipWith3Idx, List.getElem_map, List.getElem_zip, List.getElem_range,
      List.getElem_mapIdx]
    apply List.ext_getElem
    · simp only [List.length_map, List.length_zip]
      omega
    · intro i h3 h4
      simp only [List.getElem_map, List.getElem_zip]
      have hi : i < (θ.states[c]).length := by
        simp only [List.length_map, List.length_zip] at h3
        omega
      obtain ⟨hfm, hfu⟩ := hflags _ (List.getElem_mem hs) _ (List.getElem_mem hi)
      exact updateLevel_fst sess θ rows c _ _ hfm hfu

/-! ## Level positions, patterns and `gammaAt` -/

theorem patOf_eq_some_iff (comp : Comparison ℝ) (gs : List B3) (i : Fin comp.length) :
    patOf comp gs = some i ↔
      gamma comp gs = some (comp[i.val]'i.isLt).cvv ∧ findLevel comp (comp[i.val]'i.isLt).cvv = some i ∧
        (comp[i.val]'i.isLt).isNull = false := by
  unfold patOf
  constructor
  · intro h
    obtain ⟨v, hv, h⟩ := Option.bind_eq_some_iff.mp h
    obtain ⟨j, hj, h⟩ := Option.bind_eq_some_iff.mp h
    have hcv := findLevel_some_cvv comp v j hj
    split at h
    · cases h
    · cases h
      rw [hcv]
      exact ⟨hv, hj, Bool.eq_false_iff.mpr ‹_›⟩
  · rintro ⟨hγ, hf, hn⟩
    simp [hγ, hf, hn]

theorem patOf_ne_none_iff (comp : Comparison ℝ) (gs : List B3)
    (hnull : ∀ l ∈ comp, (l.isNull = true ↔ l.cvv = -1)) :
    patOf comp gs ≠ none ↔ ∃ v, gamma comp gs = some v ∧ v ≠ -1 := by
  unfold patOf
  cases hg : gamma comp gs with
  | none => simp
  | some v =>
    obtain ⟨i, hi⟩ := findLevel_of_mem comp v (Lemmas.Score.gamma_mem comp gs v hg)
    have hcv := findLevel_some_cvv comp v i hi
    have hiff := hnull _ (List.getElem_mem i.isLt)
    rw [hcv] at hiff
    simp only [Option.bind_some, hi, Option.some.injEq, exists_eq_left']
    by_cases hn : (comp[i.val]'i.isLt).isNull = true
    · simp [hn, hiff.mp hn]
    · have : v ≠ -1 := fun hv => hn (hiff.mpr hv)
      simp [hn, this]

/-- the level the look-up by value (`Score.bfColumn`) returns for the outcomes `gs` -/
def selLevel (comp : Comparison ℝ) (gs : List B3) : Option (Level ℝ) :=
  (gamma comp gs).bind fun v => comp.find? fun l => l.cvv == v

theorem selLevel_cases (comp : Comparison ℝ) (gs : List B3) :
    (patOf comp gs = none ∧
      (selLevel comp gs = none ∨ ∃ l, selLevel comp gs = some l ∧ l.isNull = true)) ∨
    ∃ i : Fin comp.length, patOf comp gs = some i ∧ selLevel comp gs = some (comp[i.val]'i.isLt) ∧
      (comp[i.val]'i.isLt).isNull = false ∧ findLevel comp (comp[i.val]'i.isLt).cvv = some i := by
  unfold patOf selLevel
  cases gamma comp gs with
  | none => exact Or.inl ⟨rfl, Or.inl rfl⟩
  | some v =>
    simp only [Option.bind_some, find?_eq_findLevel]
    cases hf : findLevel comp v with
    | none => exact Or.inl ⟨rfl, Or.inl rfl⟩
    | some i =>
      cases hn : (comp[i.val]'i.isLt).isNull with
      | true => exact Or.inl ⟨by simp [hn], Or.inr ⟨_, rfl, hn⟩⟩
      | false =>
        exact Or.inr ⟨i, by simp [hn], rfl, hn, by rw [findLevel_some_cvv comp v i hf]; exact hf⟩

theorem gammaAt_eq (θ : EM.Params ℝ) (r : EM.Row ℝ) (c : ℕ) (hc : c < θ.comps.length)
    (hg : c < r.pair.guards.length) :
    EM.gammaAt θ r c = gamma θ.comps[c] r.pair.guards[c] := by
  unfold EM.gammaAt
  rw [List.getElem?_eq_getElem hc, List.getElem?_eq_getElem hg]

def levelAt (θ : EM.Params ℝ) (c : Fin θ.comps.length) (i : Fin (absL θ c)) : Level ℝ :=
  (θ.comps[c.val])[i.val]'i.isLt

/-- position `i` is the first position of comparison `c` carrying its value (the position the
look-up by value `Score.bfColumn` / `findLevel` returns) -/
def IsFirst (θ : EM.Params ℝ) (c : Fin θ.comps.length) (i : Fin (absL θ c)) : Prop :=
  findLevel (θ.comps[c.val]) (levelAt θ c i).cvv = some i

/-- no two levels of a comparison carry the same `comparison_vector_value` -/
def DistinctValues (θ : EM.Params ℝ) : Prop := ∀ c ∈ θ.comps, (c.map (·.cvv)).Nodup

/-- the null levels are exactly the levels carrying the value −1 -/
def NullIsMinusOne (θ : EM.Params ℝ) : Prop :=
  ∀ c ∈ θ.comps, ∀ l ∈ c, (l.isNull = true ↔ l.cvv = -1)

theorem isFirst_of_distinct (θ : EM.Params ℝ) (hnd : DistinctValues θ) (c : Fin θ.comps.length)
    (i : Fin (absL θ c)) : IsFirst θ c i :=
  findLevel_nodup _ (hnd _ (List.getElem_mem c.isLt)) i

theorem absPattern_eq_some_iff (θ : EM.Params ℝ) (r : EM.Row ℝ) (c : Fin θ.comps.length)
    (i : Fin (absL θ c)) (hg : r.pair.guards.length = θ.comps.length) :
    absPattern θ r c = some i ↔
      EM.gammaAt θ r c.val = some (levelAt θ c i).cvv ∧ IsFirst θ c i ∧
        (levelAt θ c i).isNull = false := by
  have hc : c.val < r.pair.guards.length := by omega
  rw [absPattern_apply θ r c hc, gammaAt_eq θ r c.val c.isLt hc]
  exact patOf_eq_some_iff _ _ i

theorem absPattern_some (θ : EM.Params ℝ) (r : EM.Row ℝ) (c : Fin θ.comps.length)
    (i : Fin (absL θ c)) (h : absPattern θ r c = some i) :
    (levelAt θ c i).isNull = false ∧ IsFirst θ c i :=
  have h' := (patOf_eq_some_iff _ _ i).mp h
  ⟨h'.2.2, h'.2.1⟩

theorem pattern_ne_none_iff (θ : EM.Params ℝ) (r : EM.Row ℝ) (c : Fin θ.comps.length)
    (hnull : ∀ l ∈ (θ.comps[c.val]'c.isLt), (l.isNull = true ↔ l.cvv = -1))
    (hg : r.pair.guards.length = θ.comps.length) :
    absPattern θ r c ≠ none ↔ nonNull θ c.val r = true := by
  have hc : c.val < r.pair.guards.length := by omega
  show (patOf (θ.comps[c.val]'c.isLt) (r.pair.guards[c.val]?.getD []) :
    Option (Fin (θ.comps[c.val]'c.isLt).length)) ≠ none ↔ _
  rw [List.getElem?_eq_getElem hc, Option.getD_some, patOf_ne_none_iff _ _ hnull]
  unfold nonNull
  rw [gammaAt_eq θ r c.val c.isLt hc]
  cases gamma (θ.comps[c.val]'c.isLt) r.pair.guards[c.val] with
  | none => simp
  | some v => simp

/-! ## The abstract data of a list of rows -/

/-- the abstract data set: one agreement pattern per row (`J = Fin rows.length`) -/
def rowPatterns (θ : EM.Params ℝ) (rows : List (EM.Row ℝ)) :
    Fin rows.length → EML.Pattern θ.comps.length (absL θ) :=
  fun j => absPattern θ rows[j.val]

/-- the weights: the rows' `agreement_pattern_count` -/
def rowWeights (rows : List (EM.Row ℝ)) : Fin rows.length → ℝ :=
  fun j => ((rows[j.val]).count : ℝ)

/-! ## The E-step on the abstract data

The lemmas about sums below need of the E-step only `EStepBridged`; `eStepBridged_of` gives it from the
hypotheses of `EMBridge.eProb_eq_post_abs`, stated here as predicates of the parameters and the rows. -/

/-- no comparison has a term-frequency adjusted level -/
def NoTf (θ : EM.Params ℝ) : Prop := ∀ c ∈ θ.comps, hasTf c = false

/-- `m` and `u` of every non-null level are positive -/
def PositiveMU (θ : EM.Params ℝ) : Prop :=
  ∀ c ∈ θ.comps, ∀ l ∈ c, l.isNull = false → 0 < l.m ∧ 0 < l.u

/-- on every row every comparison assigns a level (`gamma_c` is not NULL) -/
def EveryComparisonAssignsLevel (θ : EM.Params ℝ) (rows : List (EM.Row ℝ)) : Prop :=
  ∀ r ∈ rows, ∀ c, c < θ.comps.length → (EM.gammaAt θ r c).isSome = true

section sums
variable (θ : EM.Params ℝ) (rows : List (EM.Row ℝ))

/-- every row supplies condition outcomes for exactly the model's comparisons -/
def GuardsMatch : Prop := ∀ r ∈ rows, r.pair.guards.length = θ.comps.length

/-- on every row the E-step is the abstract posterior -/
def EStepBridged : Prop :=
  ∀ r ∈ rows, EM.eProb θ r = EML.post (absParams θ) (absPattern θ r)

/-- the E-step bridge `eProb_eq_post_abs`, with totality stated on `gammaAt` -/
theorem eProb_abs (r : EM.Row ℝ) (hl0 : 0 < θ.prior) (hl1 : θ.prior < 1) (hnotf : NoTf θ)
    (hpos : PositiveMU θ) (hg : r.pair.guards.length = θ.comps.length)
    (htot : ∀ c, c < θ.comps.length → (EM.gammaAt θ r c).isSome = true) :
    EM.eProb θ r = EML.post (absParams θ) (absPattern θ r) :=
  eProb_eq_post_abs θ r hl0 hl1 hg hnotf hpos fun c => by
    have := htot c.val c.isLt
    rwa [gammaAt_eq θ r c.val c.isLt (by rw [hg]; exact c.isLt)] at this

theorem eStepBridged_of (hl0 : 0 < θ.prior) (hl1 : θ.prior < 1) (hnotf : NoTf θ)
    (hpos : PositiveMU θ) (hg : GuardsMatch θ rows) (htot : EveryComparisonAssignsLevel θ rows) :
    EStepBridged θ rows :=
  fun r hr => eProb_abs θ r hl0 hl1 hnotf hpos (hg r hr) (htot r hr)

/-! ## The executable sums are the abstract sums -/

theorem filter_sum_eq_cnt (c : Fin θ.comps.length) (i : Fin (absL θ c))
    (hfirst : IsFirst θ c i) (hn : (levelAt θ c i).isNull = false)
    (hg : GuardsMatch θ rows) (f : EM.Row ℝ → ℝ) (w : Fin rows.length → ℝ)
    (hfw : ∀ j : Fin rows.length, f (rows[j.val]'j.isLt) = w j) :
    ((rows.filter fun r => EM.gammaAt θ r c.val == some (levelAt θ c i).cvv).map f).sum =
      EML.cnt (rowPatterns θ rows) w c i := by
  rw [sum_filter_map_fin]
  refine Finset.sum_congr (Finset.filter_congr fun j _ => ?_) fun j _ => hfw j
  have e := absPattern_eq_some_iff θ _ c i (hg _ (List.getElem_mem j.isLt))
  rw [beq_iff_eq]
  exact ⟨fun h => e.mpr ⟨h, hfirst, hn⟩, fun h => (e.mp h).1⟩

theorem filter_sum_eq_den (c : Fin θ.comps.length)
    (hnull : ∀ l ∈ (θ.comps[c.val]'c.isLt), (l.isNull = true ↔ l.cvv = -1))
    (hg : GuardsMatch θ rows) (f : EM.Row ℝ → ℝ) (w : Fin rows.length → ℝ)
    (hfw : ∀ j : Fin rows.length, f (rows[j.val]'j.isLt) = w j) :
    ((rows.filter (nonNull θ c.val)).map f).sum = EML.den (rowPatterns θ rows) w c := by
  rw [sum_filter_map_fin]
  exact Finset.sum_congr (Finset.filter_congr fun j _ =>
    (pattern_ne_none_iff θ _ c hnull (hg _ (List.getElem_mem j.isLt))).symm)
    fun j _ => hfw j

theorem wM_row (hE : EStepBridged θ rows) (j : Fin rows.length) :
    EM.eProb θ (rows[j.val]'j.isLt) * ((rows[j.val]'j.isLt).count : ℝ) =
      EML.wM (rowPatterns θ rows) (rowWeights rows) (absParams θ) j := by
  unfold EML.wM rowWeights rowPatterns
  rw [hE _ (List.getElem_mem j.isLt), mul_comm]

theorem wU_row (hE : EStepBridged θ rows) (j : Fin rows.length) :
    (1 - EM.eProb θ (rows[j.val]'j.isLt)) * ((rows[j.val]'j.isLt).count : ℝ) =
      EML.wU (rowPatterns θ rows) (rowWeights rows) (absParams θ) j := by
  unfold EML.wU rowWeights rowPatterns
  rw [hE _ (List.getElem_mem j.isLt), mul_comm]

theorem lambdaNew_eq_lamNew (hE : EStepBridged θ rows) :
    EM.lambdaNew θ rows =
      EML.lamNew (rowPatterns θ rows) (rowWeights rows) (absParams θ) := by
  rw [lambdaNew_eq, sum_map_fin, sum_map_fin]
  unfold EML.lamNew
  congr 1
  refine Finset.sum_congr rfl fun j _ => ?_
  exact wM_row θ rows hE j

theorem observed_iff (c : Fin θ.comps.length) (i : Fin (absL θ c)) (hfirst : IsFirst θ c i)
    (hnull : ∀ l ∈ (θ.comps[c.val]'c.isLt), (l.isNull = true ↔ l.cvv = -1))
    (hg : GuardsMatch θ rows) :
    EML.Observed (rowPatterns θ rows) c i ↔
      (levelAt θ c i).cvv ∈ EM.observedValues θ rows c.val := by
  have hiff : (levelAt θ c i).isNull = true ↔ (levelAt θ c i).cvv = -1 :=
    hnull _ (List.getElem_mem i.isLt)
  rw [mem_observedValues]
  constructor
  · rintro ⟨j, hj⟩
    have hr := List.getElem_mem j.isLt
    obtain ⟨hγ, -, hn⟩ := (absPattern_eq_some_iff θ _ c i (hg _ hr)).mp hj
    exact ⟨⟨_, hr, hγ⟩, fun h => Bool.false_ne_true (hn.symm.trans (hiff.mpr h))⟩
  · rintro ⟨⟨r, hr, hγ⟩, hne⟩
    obtain ⟨j, hj, rfl⟩ := List.mem_iff_getElem.mp hr
    exact ⟨⟨j, hj⟩, (absPattern_eq_some_iff θ _ c i (hg _ hr)).mpr
      ⟨hγ, hfirst, Bool.eq_false_iff.mpr fun h => hne (hiff.mp h)⟩⟩

theorem observed_mem (c : Fin θ.comps.length) (i : Fin (absL θ c))
    (hnull : ∀ l ∈ (θ.comps[c.val]'c.isLt), (l.isNull = true ↔ l.cvv = -1))
    (hg : GuardsMatch θ rows) (h : EML.Observed (rowPatterns θ rows) c i) :
    (levelAt θ c i).cvv ∈ EM.observedValues θ rows c.val := by
  obtain ⟨j, hj⟩ := h
  exact (observed_iff θ rows c i (absPattern_some θ _ c i hj).2 hnull hg).mp ⟨j, hj⟩

end sums

/-! ## One level, one block: `newLevel` against `EML.emStep` -/

section step
variable (sess : EM.Session) (θ : EM.Params ℝ) (rows : List (EM.Row ℝ))

/-- The abstract EM step on the abstraction of `θ` and of `rows`: index set
`Fin rows.length`, patterns `absPattern θ rows[j]`, weights `rows[j].count`, the session's
three flags, placeholder 1e-6. -/
noncomputable def absStep : EML.Params θ.comps.length (absL θ) :=
  EML.emStep sess.fixM sess.fixU sess.fixLambda (1 / 1000000) (rowPatterns θ rows)
    (rowWeights rows) (absParams θ)

/-- a look-up `x` that returns the proportion of the row statistic `f` at the value of level `i`
when that value is observed, and fails otherwise, is — with the placeholder for the failure — the
abstract `newBlock` of the weights `w` that `f` computes -/
theorem getD_eq_newBlock (c : Fin θ.comps.length) (i : Fin (absL θ c)) (hfirst : IsFirst θ c i)
    (hnull : ∀ l ∈ (θ.comps[c.val]'c.isLt), (l.isNull = true ↔ l.cvv = -1))
    (hn : (levelAt θ c i).isNull = false) (hg : GuardsMatch θ rows) (x : Option ℝ) (ph : ℝ)
    (f : EM.Row ℝ → ℝ) (w : Fin rows.length → ℝ)
    (hfw : ∀ j : Fin rows.length, f (rows[j.val]'j.isLt) = w j)
    (hmem : (levelAt θ c i).cvv ∈ EM.observedValues θ rows c.val →
      x = some (((rows.filter fun r => EM.gammaAt θ r c.val == some (levelAt θ c i).cvv).map f).sum /
        ((rows.filter (nonNull θ c.val)).map f).sum))
    (hnot : (levelAt θ c i).cvv ∉ EM.observedValues θ rows c.val → x = none) :
    x.getD ph = EML.newBlock (rowPatterns θ rows) w ph c i := by
  by_cases hobs : EML.Observed (rowPatterns θ rows) c i
  · rw [hmem ((observed_iff θ rows c i hfirst hnull hg).mp hobs), Option.getD_some,
      EML.newBlock_observed _ _ _ _ _ hobs, filter_sum_eq_cnt θ rows c i hfirst hn hg f w hfw,
      filter_sum_eq_den θ rows c hnull hg f w hfw]
  · rw [hnot fun h => hobs ((observed_iff θ rows c i hfirst hnull hg).mpr h), Option.getD_none,
      EML.newBlock_unobserved _ _ _ _ _ hobs]

theorem newLevel_eq_absStep (c : Fin θ.comps.length) (i : Fin (absL θ c))
    (hfirst : IsFirst θ c i) (hnull : NullIsMinusOne θ)
    (hn : (levelAt θ c i).isNull = false)
    (hg : GuardsMatch θ rows) (hE : EStepBridged θ rows) :
    (newLevel sess θ rows c.val (levelAt θ c i)).m = (absStep sess θ rows).m c i ∧
      (newLevel sess θ rows c.val (levelAt θ c i)).u = (absStep sess θ rows).u c i := by
  have hnull' := hnull _ (List.getElem_mem c.isLt)
  rw [newLevel_m sess θ rows c.val hn, newLevel_u sess θ rows c.val hn]
  unfold absStep EML.emStep
  constructor
  · cases sess.fixM
    · simp only [Bool.false_eq_true, if_false]
      exact getD_eq_newBlock θ rows c i hfirst hnull' hn hg _ _ _ _ (wM_row θ rows hE)
        (newM_rows θ rows c.val _)
        (newM_of_not_mem θ rows c.val _)
    · rfl
  · cases sess.fixU
    · simp only [Bool.false_eq_true, if_false]
      exact getD_eq_newBlock θ rows c i hfirst hnull' hn hg _ _ _ _ (wU_row θ rows hE)
        (newU_rows θ rows c.val _)
        (newU_of_not_mem θ rows c.val _)
    · rfl

theorem step_prior_eq (hE : EStepBridged θ rows) :
    (EM.step sess θ rows).prior = (absStep sess θ rows).lam := by
  unfold absStep EML.emStep
  cases hf : sess.fixLambda
  · simp only [EM.step, hf, Bool.false_eq_true, if_false]
    exact lambdaNew_eq_lamNew θ rows hE
  · simp only [EM.step, hf, if_true]
    rfl

end step

/-! ## The whole step -/

/-- transport of abstract parameters along an equality of shapes (no `▸`: the indices are
cast) -/
def castParams {C C' : ℕ} {L : Fin C → ℕ} {L' : Fin C' → ℕ} (hC : C' = C)
    (hL : ∀ c : Fin C', L' c = L (Fin.cast hC c)) (p : EML.Params C L) : EML.Params C' L' where
  lam := p.lam
  m := fun c i => p.m (Fin.cast hC c) (Fin.cast (hL c) i)
  u := fun c i => p.u (Fin.cast hC c) (Fin.cast (hL c) i)

section main
variable (sess : EM.Session) (θ : EM.Params ℝ) (rows : List (EM.Row ℝ))
  (hshape : SameShape θ) (hflags : LevelFlagsOff θ)
include hshape hflags

theorem step_comps_length :
    (EM.step sess θ rows).comps.length = θ.comps.length :=
  length_step_comps sess θ rows (sameShape_length hshape).symm

theorem step_comp_getElem (c : ℕ)
    (h' : c < (EM.step sess θ rows).comps.length) (h : c < θ.comps.length) :
    (EM.step sess θ rows).comps[c] = (θ.comps[c]).map (newLevel sess θ rows c) := by
  rw [List.getElem_of_eq (step_comps sess θ rows hshape hflags) h', List.getElem_mapIdx]

theorem step_absL (c : Fin (EM.step sess θ rows).comps.length) :
    absL (EM.step sess θ rows) c =
      absL θ (Fin.cast (step_comps_length sess θ rows hshape hflags) c) := by
  unfold absL
  rw [step_comp_getElem sess θ rows hshape hflags c.val c.isLt
    (by rw [← step_comps_length sess θ rows hshape hflags]; exact c.isLt)]
  simp

theorem step_levelAt (c : Fin (EM.step sess θ rows).comps.length) (i : Fin (absL (EM.step sess θ rows) c)) :
    levelAt (EM.step sess θ rows) c i =
      newLevel sess θ rows c.val
        (levelAt θ (Fin.cast (step_comps_length sess θ rows hshape hflags) c)
          (Fin.cast (step_absL sess θ rows hshape hflags c) i)) := by
  unfold levelAt
  have hc : c.val < θ.comps.length := by
    rw [← step_comps_length sess θ rows hshape hflags]; exact c.isLt
  rw [List.getElem_of_eq (step_comp_getElem sess θ rows hshape hflags c.val c.isLt hc) i.isLt,
    List.getElem_map]
  rfl

/-- Every position of `θ` is a position of the stepped parameters: it holds the updated level,
and `castParams` reads there what abstract parameters have at the position of `θ`. -/
theorem exists_step_position (c : Fin θ.comps.length) (i : Fin (absL θ c)) :
    ∃ (c' : Fin (EM.step sess θ rows).comps.length) (i' : Fin (absL (EM.step sess θ rows) c')),
      levelAt (EM.step sess θ rows) c' i' = newLevel sess θ rows c.val (levelAt θ c i) ∧
      ∀ p : EML.Params θ.comps.length (absL θ),
        (castParams (step_comps_length sess θ rows hshape hflags)
          (step_absL sess θ rows hshape hflags) p).m c' i' = p.m c i ∧
        (castParams (step_comps_length sess θ rows hshape hflags)
          (step_absL sess θ rows hshape hflags) p).u c' i' = p.u c i :=
  ⟨Fin.cast (step_comps_length sess θ rows hshape hflags).symm c,
    Fin.cast (step_absL sess θ rows hshape hflags _).symm i,
    step_levelAt sess θ rows hshape hflags _ _, fun _ => ⟨rfl, rfl⟩⟩

end main

/-! ## The log-likelihood of executable parameters

Defined from the executable model only: the level a row selects in comparison `ci` is the
first level carrying the row's `gamma_ci` (the look-up `Score.bfColumn` performs); it
contributes its `m` to the match class and its `u` to the non-match class, the null level
contributes 1 (`Score.levelBF`). -/

/-- the level of comparison `ci` the row selects -/
def rowLevel (θ : EM.Params ℝ) (r : EM.Row ℝ) (ci : ℕ) : Option (Level ℝ) :=
  match θ.comps[ci]?, EM.gammaAt θ r ci with
  | some c, some v => c.find? fun l => l.cvv == v
  | _, _ => none

/-- factor of the selected level in the match class -/
def mFactor : Option (Level ℝ) → ℝ
  | some l => if l.isNull then 1 else l.m
  | none => 1

/-- factor of the selected level in the non-match class -/
def uFactor : Option (Level ℝ) → ℝ
  | some l => if l.isNull then 1 else l.u
  | none => 1

/-- `P(row) = prior · ∏_c m_c(level of the row) + (1 − prior) · ∏_c u_c(level of the row)` -/
noncomputable def execLik (θ : EM.Params ℝ) (r : EM.Row ℝ) : ℝ :=
  θ.prior * ((List.range θ.comps.length).map fun ci => mFactor (rowLevel θ r ci)).prod +
    (1 - θ.prior) * ((List.range θ.comps.length).map fun ci => uFactor (rowLevel θ r ci)).prod

/-- observed-data log-likelihood of the rows: `∑_rows count · log P(row)` -/
noncomputable def execLogLik (θ : EM.Params ℝ) (rows : List (EM.Row ℝ)) : ℝ :=
  (rows.map fun r => (r.count : ℝ) * Real.log (execLik θ r)).sum

/-- `execLik` is the abstract likelihood of any abstract parameters/pattern that agree with the
executable ones comparison by comparison -/
theorem execLik_eq_lik (θ₁ : EM.Params ℝ) (r : EM.Row ℝ) {C : ℕ} {L : Fin C → ℕ}
    (θa : EML.Params C L) (γ : EML.Pattern C L)
    (hlen : θ₁.comps.length = C) (hprior : θ₁.prior = θa.lam)
    (hm : ∀ c : Fin C, mFactor (rowLevel θ₁ r c.val) = EML.fac θa.m γ c)
    (hu : ∀ c : Fin C, uFactor (rowLevel θ₁ r c.val) = EML.fac θa.u γ c) :
    execLik θ₁ r = EML.lik θa γ := by
  subst hlen
  unfold execLik EML.lik EML.pm EML.pu
  rw [prod_map_range, prod_map_range, hprior,
    Finset.prod_congr rfl fun c _ => hm c, Finset.prod_congr rfl fun c _ => hu c]

theorem rowLevel_eq (θ : EM.Params ℝ) (r : EM.Row ℝ) (c : ℕ) (hc : c < θ.comps.length)
    (hg : c < r.pair.guards.length) :
    rowLevel θ r c = selLevel θ.comps[c] r.pair.guards[c] := by
  unfold rowLevel selLevel
  rw [gammaAt_eq θ r c hc hg, List.getElem?_eq_getElem hc]
  cases gamma θ.comps[c] r.pair.guards[c] <;> rfl

theorem rowLevel_cases (θ : EM.Params ℝ) (r : EM.Row ℝ) (c : Fin θ.comps.length)
    (hg : r.pair.guards.length = θ.comps.length) :
    (absPattern θ r c = none ∧
      (rowLevel θ r c.val = none ∨ ∃ l, rowLevel θ r c.val = some l ∧ l.isNull = true)) ∨
    (∃ i, absPattern θ r c = some i ∧ rowLevel θ r c.val = some (levelAt θ c i) ∧
      (levelAt θ c i).isNull = false ∧ IsFirst θ c i) := by
  have hc : c.val < r.pair.guards.length := by omega
  rw [rowLevel_eq θ r c.val c.isLt hc, absPattern_apply θ r c hc]
  exact selLevel_cases _ _

/-- The factors of the level a row selects, after a map `f` of the levels that keeps the null
flag, are the abstract factors of any blocks that agree with `f` at the first non-null
positions: `f = id` for `θ` itself, `f = newLevel …` for the parameters after the step. -/
theorem factors_map (θ : EM.Params ℝ) (r : EM.Row ℝ) (c : Fin θ.comps.length)
    (hg : r.pair.guards.length = θ.comps.length) (f : Level ℝ → Level ℝ)
    (hf : ∀ l, (f l).isNull = l.isNull) (θa : EML.Params θ.comps.length (absL θ))
    (h : ∀ i, IsFirst θ c i → (levelAt θ c i).isNull = false →
      (f (levelAt θ c i)).m = θa.m c i ∧ (f (levelAt θ c i)).u = θa.u c i) :
    mFactor ((rowLevel θ r c.val).map f) = EML.fac θa.m (absPattern θ r) c ∧
    uFactor ((rowLevel θ r c.val).map f) = EML.fac θa.u (absPattern θ r) c := by
  rw [EML.fac_eq, EML.fac_eq]
  rcases rowLevel_cases θ r c hg with ⟨hp, hr | ⟨l, hr, hl⟩⟩ | ⟨i, hp, hr, hn, hfirst⟩
  · rw [hp, hr]; exact ⟨rfl, rfl⟩
  · rw [hp, hr]; simp [mFactor, uFactor, hf, hl]
  · rw [hp, hr]
    simp only [Option.map_some, mFactor, uFactor, hf, hn, Bool.false_eq_true, if_false]
    exact h i hfirst hn

theorem mFactor_uFactor_abs (θ : EM.Params ℝ) (r : EM.Row ℝ) (c : Fin θ.comps.length)
    (hg : r.pair.guards.length = θ.comps.length) :
    mFactor (rowLevel θ r c.val) = EML.fac (absParams θ).m (absPattern θ r) c ∧
    uFactor (rowLevel θ r c.val) = EML.fac (absParams θ).u (absPattern θ r) c := by
  simpa only [Option.map_id, id_eq] using
    factors_map θ r c hg id (fun _ => rfl) (absParams θ) fun _ _ _ => ⟨rfl, rfl⟩

theorem execLik_abs (θ : EM.Params ℝ) (r : EM.Row ℝ)
    (hg : r.pair.guards.length = θ.comps.length) :
    execLik θ r = EML.lik (absParams θ) (absPattern θ r) :=
  execLik_eq_lik θ r (absParams θ) (absPattern θ r) rfl rfl
    (fun c => (mFactor_uFactor_abs θ r c hg).1) (fun c => (mFactor_uFactor_abs θ r c hg).2)

/-- row by row: the log-likelihood of parameters `θ₁` over `rows` is the abstract one of `θa` over
the abstract data that `θ` makes of the rows -/
theorem execLogLik_eq_logLik (θ θ₁ : EM.Params ℝ) (rows : List (EM.Row ℝ))
    (θa : EML.Params θ.comps.length (absL θ))
    (h : ∀ r ∈ rows, execLik θ₁ r = EML.lik θa (absPattern θ r)) :
    execLogLik θ₁ rows = EML.logLik (rowPatterns θ rows) (rowWeights rows) θa := by
  unfold execLogLik EML.logLik
  rw [sum_map_fin]
  refine Finset.sum_congr rfl fun j _ => ?_
  rw [h _ (List.getElem_mem j.isLt)]
  rfl

theorem execLogLik_abs (θ : EM.Params ℝ) (rows : List (EM.Row ℝ)) (hg : GuardsMatch θ rows) :
    execLogLik θ rows = EML.logLik (rowPatterns θ rows) (rowWeights rows) (absParams θ) :=
  execLogLik_eq_logLik θ θ rows _ fun r hr => execLik_abs θ r (hg r hr)

theorem gamma_map (f : Level ℝ → Level ℝ) (hcvv : ∀ l, (f l).cvv = l.cvv)
    (helse : ∀ l, (f l).isElse = l.isElse) (comp : Comparison ℝ) (gs : List B3) :
    gamma (comp.map f) gs = gamma comp gs := by
  induction comp generalizing gs with
  | nil => rfl
  | cons l ls ih =>
    cases gs with
    | nil => simp [gamma, hcvv, helse]
    | cons g gs' => simp [gamma, hcvv, helse, ih]

section stepLik
variable (sess : EM.Session) (θ : EM.Params ℝ) (rows : List (EM.Row ℝ))
  (hshape : SameShape θ) (hflags : LevelFlagsOff θ)
include hshape hflags

theorem gammaAt_step (r : EM.Row ℝ) (c : ℕ) :
    EM.gammaAt (EM.step sess θ rows) r c = EM.gammaAt θ r c := by
  unfold EM.gammaAt
  rw [step_comps sess θ rows hshape hflags, List.getElem?_mapIdx]
  cases θ.comps[c]? with
  | none => rfl
  | some comp =>
    cases r.pair.guards[c]? with
    | none => rfl
    | some gs => exact gamma_map _ (newLevel_cvv sess θ rows c) (newLevel_isElse sess θ rows c) comp gs

theorem rowLevel_step (r : EM.Row ℝ) (c : ℕ)
    (hc : c < θ.comps.length) :
    rowLevel (EM.step sess θ rows) r c = (rowLevel θ r c).map (newLevel sess θ rows c) := by
  unfold rowLevel
  rw [gammaAt_step sess θ rows hshape hflags, step_comps sess θ rows hshape hflags,
    List.getElem?_mapIdx, List.getElem?_eq_getElem hc]
  cases EM.gammaAt θ r c with
  | none => rfl
  | some v =>
    simp only [Option.map_some, List.find?_map]
    congr 1
    apply List.find?_congr
    intro l _
    simp [newLevel_cvv]

theorem execLik_step (hnull : NullIsMinusOne θ)
    (hg : GuardsMatch θ rows) (hE : EStepBridged θ rows)
    (r : EM.Row ℝ) (hgr : r.pair.guards.length = θ.comps.length) :
    execLik (EM.step sess θ rows) r = EML.lik (absStep sess θ rows) (absPattern θ r) := by
  have fac := fun c : Fin θ.comps.length =>
    factors_map θ r c hgr (newLevel sess θ rows c.val) (newLevel_isNull sess θ rows c.val)
      (absStep sess θ rows) fun i hfirst hn =>
        newLevel_eq_absStep sess θ rows c i hfirst hnull hn hg hE
  exact execLik_eq_lik _ r (absStep sess θ rows) (absPattern θ r)
    (step_comps_length sess θ rows hshape hflags) (step_prior_eq sess θ rows hE)
    (fun c => rowLevel_step sess θ rows hshape hflags r c.val c.isLt ▸ (fac c).1)
    fun c => rowLevel_step sess θ rows hshape hflags r c.val c.isLt ▸ (fac c).2

theorem execLogLik_step (hnull : NullIsMinusOne θ)
    (hg : GuardsMatch θ rows) (hE : EStepBridged θ rows) :
    execLogLik (EM.step sess θ rows) rows =
      EML.logLik (rowPatterns θ rows) (rowWeights rows) (absStep sess θ rows) :=
  execLogLik_eq_logLik θ _ rows _ fun r hr =>
    execLik_step sess θ rows hshape hflags hnull hg hE r (hg r hr)

end stepLik

/-! ## Monotonicity: the abstract invariant from predicates of the executable parameters -/

/-- for every comparison, the current `m` of the levels whose value occurs among the rows'
non-null `gamma_c` sum to at most 1 -/
def SubNormalisedM (θ : EM.Params ℝ) (rows : List (EM.Row ℝ)) : Prop :=
  ∀ c (hc : c < θ.comps.length),
    (((θ.comps[c]).filter fun l => (EM.observedValues θ rows c).contains l.cvv).map (·.m)).sum ≤ 1

/-- … likewise for `u` -/
def SubNormalisedU (θ : EM.Params ℝ) (rows : List (EM.Row ℝ)) : Prop :=
  ∀ c (hc : c < θ.comps.length),
    (((θ.comps[c]).filter fun l => (EM.observedValues θ rows c).contains l.cvv).map (·.u)).sum ≤ 1

theorem subNormalised_of_sum_le (θ : EM.Params ℝ) (rows : List (EM.Row ℝ)) (p : Level ℝ → ℝ)
    (h : ∀ c ∈ θ.comps, (∀ l ∈ c, 0 ≤ p l) ∧ (c.map p).sum ≤ 1) (c : ℕ)
    (hc : c < θ.comps.length) :
    (((θ.comps[c]).filter fun l => (EM.observedValues θ rows c).contains l.cvv).map p).sum ≤ 1 := by
  obtain ⟨h0, h1⟩ := h _ (List.getElem_mem hc)
  refine (List.Sublist.sum_le_sum (List.filter_sublist.map p) fun a ha => ?_).trans h1
  obtain ⟨l, hl, rfl⟩ := List.mem_map.mp ha
  exact h0 l hl

/-- a start whose `m` and `u` are, comparison by comparison, non-negative with sum at most 1 and
positive on the non-null levels -/
def Normalised (θ : EM.Params ℝ) : Prop :=
  ∀ c ∈ θ.comps, (∀ l ∈ c, 0 ≤ l.m ∧ 0 ≤ l.u ∧ (l.isNull = false → 0 < l.m ∧ 0 < l.u)) ∧
    (c.map (·.m)).sum ≤ 1 ∧ (c.map (·.u)).sum ≤ 1

theorem Normalised.positive {θ : EM.Params ℝ} (h : Normalised θ) : PositiveMU θ :=
  fun c hc l hl => ((h c hc).1 l hl).2.2

theorem Normalised.subM {θ : EM.Params ℝ} (h : Normalised θ) (rows : List (EM.Row ℝ)) :
    SubNormalisedM θ rows :=
  subNormalised_of_sum_le θ rows (·.m) fun c hc => ⟨fun l hl => ((h c hc).1 l hl).1, (h c hc).2.1⟩

theorem Normalised.subU {θ : EM.Params ℝ} (h : Normalised θ) (rows : List (EM.Row ℝ)) :
    SubNormalisedU θ rows :=
  subNormalised_of_sum_le θ rows (·.u) fun c hc =>
    ⟨fun l hl => ((h c hc).1 l hl).2.1, (h c hc).2.2⟩

section final
variable (sess : EM.Session) (θ : EM.Params ℝ) (rows : List (EM.Row ℝ))

/-- the E-step probability is the match class's share of the row's likelihood -/
theorem eProb_eq_div (r : EM.Row ℝ) (hl0 : 0 < θ.prior) (hl1 : θ.prior < 1) (hnotf : NoTf θ)
    (hpos : PositiveMU θ) (hg : r.pair.guards.length = θ.comps.length)
    (htot : ∀ c, c < θ.comps.length → (EM.gammaAt θ r c).isSome = true) :
    EM.eProb θ r =
      θ.prior * ((List.range θ.comps.length).map fun ci => mFactor (rowLevel θ r ci)).prod /
        execLik θ r := by
  rw [eProb_abs θ r hl0 hl1 hnotf hpos hg htot, execLik_abs θ r hg, prod_map_range]
  unfold EML.post EML.pm
  rw [Finset.prod_congr rfl fun c _ => (mFactor_uFactor_abs θ r c hg).1]
  rfl

theorem sum_observed_eq (c : Fin θ.comps.length) (hnd : DistinctValues θ)
    (hnull : NullIsMinusOne θ) (hg : GuardsMatch θ rows) (f : Level ℝ → ℝ) :
    ∑ l with EML.Observed (rowPatterns θ rows) c l, f (levelAt θ c l) =
      (((θ.comps[c.val]'c.isLt).filter fun l =>
        (EM.observedValues θ rows c.val).contains l.cvv).map f).sum := by
  rw [sum_filter_map_fin]
  exact Finset.sum_congr (Finset.filter_congr fun i _ =>
    (observed_iff θ rows c i (isFirst_of_distinct θ hnd c i)
      (hnull _ (List.getElem_mem c.isLt)) hg).trans List.contains_iff_mem.symm) fun _ _ => rfl

/-- without `DistinctValues`: the abstract sum over the observed positions is at most the
executable sum over the levels whose value is observed (a duplicate of an observed level is
counted by the latter only) -/
theorem sum_observed_le (c : Fin θ.comps.length) (hnull : NullIsMinusOne θ)
    (hg : GuardsMatch θ rows) (f : Level ℝ → ℝ)
    (hf : ∀ l ∈ (θ.comps[c.val]'c.isLt), l.isNull = false → 0 ≤ f l) :
    ∑ l with EML.Observed (rowPatterns θ rows) c l, f (levelAt θ c l) ≤
      (((θ.comps[c.val]'c.isLt).filter fun l =>
        (EM.observedValues θ rows c.val).contains l.cvv).map f).sum := by
  have hnull' := hnull _ (List.getElem_mem c.isLt)
  rw [sum_filter_map_fin]
  refine Finset.sum_le_sum_of_subset_of_nonneg (fun i hi => ?_) fun i hi _ => ?_
  · exact Finset.mem_filter.mpr ⟨Finset.mem_univ _, List.contains_iff_mem.mpr
      (observed_mem θ rows c i hnull' hg (Finset.mem_filter.mp hi).2)⟩
  · have hne := ((mem_observedValues θ rows c.val _).mp
      (List.contains_iff_mem.mp (Finset.mem_filter.mp hi).2)).2
    have hl := List.getElem_mem i.isLt
    exact hf _ hl (Bool.eq_false_iff.mpr fun h => hne ((hnull' _ hl).mp h))

/-- `PositiveMU` gives positivity where `EML.Interior` asks for it: an observed position holds a
non-null level -/
theorem absParams_interior (hl0 : 0 < θ.prior) (hl1 : θ.prior < 1) (hpos : PositiveMU θ) :
    EML.Interior (rowPatterns θ rows) (absParams θ) := by
  have h : ∀ c l, EML.Observed (rowPatterns θ rows) c l → 0 < (levelAt θ c l).m ∧ 0 < (levelAt θ c l).u :=
    fun c l ⟨_, hj⟩ => hpos _ (List.getElem_mem c.isLt) _ (List.getElem_mem l.isLt)
      (absPattern_some θ _ c l hj).1
  exact ⟨hl0, hl1, fun c l hl => (h c l hl).1, fun c l hl => (h c l hl).2⟩

theorem rowWeights_pos (hcount : ∀ r ∈ rows, 0 < r.count) (j : Fin rows.length) :
    0 < rowWeights rows j := by
  unfold rowWeights
  exact_mod_cast hcount _ (List.getElem_mem j.isLt)

theorem absParams_subNormalised (hpos : PositiveMU θ) (hnull : NullIsMinusOne θ) (hg : GuardsMatch θ rows)
    (hsubm : SubNormalisedM θ rows) (hsubu : SubNormalisedU θ rows) :
    (∀ c, ∑ l with EML.Observed (rowPatterns θ rows) c l, (absParams θ).m c l ≤ 1) ∧
      ∀ c, ∑ l with EML.Observed (rowPatterns θ rows) c l, (absParams θ).u c l ≤ 1 :=
  ⟨fun c => (sum_observed_le θ rows c hnull hg (·.m)
      fun l hl hn => (hpos _ (List.getElem_mem c.isLt) l hl hn).1.le).trans (hsubm c.val c.isLt),
    fun c => (sum_observed_le θ rows c hnull hg (·.u)
      fun l hl hn => (hpos _ (List.getElem_mem c.isLt) l hl hn).2.le).trans (hsubu c.val c.isLt)⟩

/-- `EML.loglik_mono_posOn` read on the executable model: both sides are abstract log-likelihoods over
the data `rowPatterns θ rows` (`execLogLik_abs`, `execLogLik_step`), and `absParams_interior`,
`absParams_subNormalised` supply the invariant.  No `DistinctValues`: a likelihood reads first positions
only, and for the sums `sum_observed_le` suffices. -/
theorem execLogLik_mono (hl0 : 0 < θ.prior) (hl1 : θ.prior < 1) (hnotf : NoTf θ)
    (hpos : PositiveMU θ) (hnull : NullIsMinusOne θ)
    (hshape : SameShape θ) (hflags : LevelFlagsOff θ)
    (hg : GuardsMatch θ rows) (htot : EveryComparisonAssignsLevel θ rows)
    (hcount : ∀ r ∈ rows, 0 < r.count)
    (hsubm : SubNormalisedM θ rows) (hsubu : SubNormalisedU θ rows) :
    execLogLik θ rows ≤ execLogLik (EM.step sess θ rows) rows := by
  by_cases hne : rows = []
  · subst hne
    simp [execLogLik]
  have hE := eStepBridged_of θ rows hl0 hl1 hnotf hpos hg htot
  rw [execLogLik_abs θ rows hg, execLogLik_step sess θ rows hshape hflags hnull hg hE]
  have : Nonempty (Fin rows.length) := ⟨⟨0, List.length_pos_iff.mpr hne⟩⟩
  exact EML.loglik_mono_posOn sess.fixM sess.fixU sess.fixLambda (1 / 1000000) (rowWeights rows)
    (absParams_interior θ rows hl0 hl1 hpos) (rowWeights_pos rows hcount)
    (absParams_subNormalised θ rows hpos hnull hg hsubm hsubu).1 (absParams_subNormalised θ rows hpos hnull hg hsubm hsubu).2

end final

/-! ## A literal equality: the canonical abstraction

`absParams` has one slot per level *position*, also for the null level, whose slot no
pattern ever reads.  `EM.step` leaves whatever is stored there, `EML.emStep` writes the
placeholder, so `absParams (step …) = emStep … (absParams …)` can fail in that slot
(`absParams_step_null_slot`).  Canonicalising the unread slot makes
the bridge a literal equality of abstract parameters. -/

/-- the abstraction of `θ` with the never-read slots of the null levels set to the
placeholder 1e-6 -/
noncomputable def absParamsC (θ : EM.Params ℝ) : EML.Params θ.comps.length (absL θ) where
  lam := θ.prior
  m := fun c i => if (levelAt θ c i).isNull then 1 / 1000000 else (levelAt θ c i).m
  u := fun c i => if (levelAt θ c i).isNull then 1 / 1000000 else (levelAt θ c i).u

theorem absParamsC_agree (θ : EM.Params ℝ) (c : Fin θ.comps.length) (i : Fin (absL θ c))
    (hn : (levelAt θ c i).isNull = false) :
    (absParamsC θ).m c i = (absParams θ).m c i ∧ (absParamsC θ).u c i = (absParams θ).u c i := by
  unfold absParamsC
  simp only [hn, Bool.false_eq_true, if_false]
  exact ⟨rfl, rfl⟩

theorem absParamsC_null (θ : EM.Params ℝ) (c : Fin θ.comps.length) (i : Fin (absL θ c))
    (hn : (levelAt θ c i).isNull = true) :
    (absParamsC θ).m c i = 1 / 1000000 ∧ (absParamsC θ).u c i = 1 / 1000000 := by
  unfold absParamsC
  simp only [hn, if_true, and_self]

theorem lik_post_absParamsC (θ : EM.Params ℝ) (r : EM.Row ℝ) :
    EML.lik (absParamsC θ) (absPattern θ r) = EML.lik (absParams θ) (absPattern θ r) ∧
    EML.post (absParamsC θ) (absPattern θ r) = EML.post (absParams θ) (absPattern θ r) :=
  EML.lik_post_congr _ _ _ rfl
    (fun c l h => (absParamsC_agree θ c l (absPattern_some θ r c l h).1).1)
    (fun c l h => (absParamsC_agree θ c l (absPattern_some θ r c l h).1).2)

section canonical
variable (sess : EM.Session) (θ : EM.Params ℝ) (rows : List (EM.Row ℝ))

/-- the abstract step started from `absParamsC θ`; `absStepC_eq` relates it to `absStep` -/
noncomputable def absStepC : EML.Params θ.comps.length (absL θ) :=
  EML.emStep sess.fixM sess.fixU sess.fixLambda (1 / 1000000) (rowPatterns θ rows)
    (rowWeights rows) (absParamsC θ)

theorem not_observed_of_null (c : Fin θ.comps.length) (i : Fin (absL θ c))
    (hn : (levelAt θ c i).isNull = true) : ¬ EML.Observed (rowPatterns θ rows) c i := by
  rintro ⟨j, hj⟩
  exact Bool.false_ne_true ((absPattern_some θ _ c i hj).1.symm.trans hn)

/-- the abstract step on the canonical abstraction is the abstract step with the slots of the
null levels at the placeholder: the E-step weights do not read these slots, and no row is
observed at them -/
theorem absStepC_eq :
    (absStepC sess θ rows).lam = (absStep sess θ rows).lam ∧
    ∀ (c : Fin θ.comps.length) (i : Fin (absL θ c)),
      (absStepC sess θ rows).m c i =
        (if (levelAt θ c i).isNull then 1 / 1000000 else (absStep sess θ rows).m c i) ∧
      (absStepC sess θ rows).u c i =
        (if (levelAt θ c i).isNull then 1 / 1000000 else (absStep sess θ rows).u c i) := by
  obtain ⟨hM, hU, hlam⟩ := EML.weights_congr (rowPatterns θ rows) (rowWeights rows) (absParamsC θ)
    (absParams θ) fun j => (lik_post_absParamsC θ (rows[j.val]'j.isLt)).2
  unfold absStepC absStep EML.emStep
  rw [hM, hU, hlam]
  refine ⟨rfl, fun c i => ?_⟩
  cases hn : (levelAt θ c i).isNull
  · simp only [Bool.false_eq_true, if_false]
    constructor
    · cases sess.fixM
      · rfl
      · exact (absParamsC_agree θ c i hn).1
    · cases sess.fixU
      · rfl
      · exact (absParamsC_agree θ c i hn).2
  · have hno := not_observed_of_null θ rows c i hn
    simp only [if_true]
    constructor
    · cases sess.fixM
      · exact EML.newBlock_unobserved _ _ _ _ _ hno
      · exact (absParamsC_null θ c i hn).1
    · cases sess.fixU
      · exact EML.newBlock_unobserved _ _ _ _ _ hno
      · exact (absParamsC_null θ c i hn).2

/-- The M-step bridge as an equality of abstract parameters.  Slot by slot: where the level is not
null it is `newLevel_eq_absStep` (every position is a first position by `DistinctValues`), where it is
null both sides hold the placeholder; `castParams` re-indexes along `step_comps_length`, `step_absL`. -/
theorem absParamsC_step (hshape : SameShape θ) (hflags : LevelFlagsOff θ)
    (hnd : DistinctValues θ) (hnull : NullIsMinusOne θ)
    (hg : GuardsMatch θ rows) (hE : EStepBridged θ rows) :
    absParamsC (EM.step sess θ rows) =
      castParams (step_comps_length sess θ rows hshape hflags)
        (step_absL sess θ rows hshape hflags) (absStepC sess θ rows) := by
  obtain ⟨hlam, hC⟩ := absStepC_eq sess θ rows
  have slot : ∀ c i,
      (absParamsC (EM.step sess θ rows)).m c i =
        (castParams (step_comps_length sess θ rows hshape hflags)
          (step_absL sess θ rows hshape hflags) (absStepC sess θ rows)).m c i ∧
      (absParamsC (EM.step sess θ rows)).u c i =
        (castParams (step_comps_length sess θ rows hshape hflags)
          (step_absL sess θ rows hshape hflags) (absStepC sess θ rows)).u c i := by
    intro c i
    unfold absParamsC castParams
    simp only
    rw [step_levelAt sess θ rows hshape hflags c i, newLevel_isNull, (hC _ _).1, (hC _ _).2]
    cases hn : (levelAt θ (Fin.cast (step_comps_length sess θ rows hshape hflags) c)
      (Fin.cast (step_absL sess θ rows hshape hflags c) i)).isNull
    · exact newLevel_eq_absStep sess θ rows _ _ (isFirst_of_distinct θ hnd _ _) hnull hn hg hE
    · exact ⟨rfl, rfl⟩
  exact EML.params_ext _ _ ((step_prior_eq sess θ rows hE).trans hlam.symm) (fun c i => (slot c i).1)
    fun c i => (slot c i).2

end canonical

/-! ## Where the step and the abstract step part

The two slots at which `EM.step` and `EML.emStep` can differ once a hypothesis of
`absParamsC_step` is dropped, for arbitrary parameters; `Lemmas/EMMBridgeWitness.lean` puts
numbers in. -/

section deviation
variable (sess : EM.Session) (θ : EM.Params ℝ) (rows : List (EM.Row ℝ))
  (hshape : SameShape θ) (hflags : LevelFlagsOff θ)

/-- Without `DistinctValues`: a non-null position that is not the first carrying its value gets
from `EM.step` the estimate looked up by value, and from the abstract step the placeholder,
because no pattern points to it.  The two differ as soon as that estimate is not the
placeholder. -/
theorem absParamsC_step_ne (hf : sess.fixM = false) (c : Fin θ.comps.length)
    (i : Fin (absL θ c)) (hn : (levelAt θ c i).isNull = false) (hnf : ¬ IsFirst θ c i)
    (hne : (EM.newM θ rows c.val (levelAt θ c i).cvv).getD (1 / 1000000) ≠ 1 / 1000000) :
    absParamsC (EM.step sess θ rows) ≠
      castParams (step_comps_length sess θ rows hshape hflags)
        (step_absL sess θ rows hshape hflags) (absStepC sess θ rows) := by
  intro e
  obtain ⟨c', i', h, hcast⟩ := exists_step_position sess θ rows hshape hflags c i
  have hm : (absParamsC (EM.step sess θ rows)).m c' i' = (absStepC sess θ rows).m c i := by
    rw [e, (hcast _).1]
  rw [(absParamsC_agree _ c' i' (by rw [h, newLevel_isNull, hn])).1] at hm
  change (levelAt (EM.step sess θ rows) c' i').m = _ at hm
  rw [h, newLevel_m sess θ rows c.val hn, hf] at hm
  refine hne (hm.trans ?_)
  unfold absStepC EML.emStep
  simp only [hf, Bool.false_eq_true, if_false]
  exact EML.newBlock_unobserved _ _ _ _ _ fun ⟨j, hj⟩ => hnf (absPattern_some θ _ c i hj).2

/-- On the position-indexed abstraction `absParams`: the slot of a null level keeps what is
stored there under `EM.step` and receives the placeholder from the abstract step. -/
theorem absParams_step_null_slot (hf : sess.fixM = false) (c : Fin θ.comps.length)
    (i : Fin (absL θ c)) (hn : (levelAt θ c i).isNull = true)
    (hne : (levelAt θ c i).m ≠ 1 / 1000000) :
    ∃ (c' : Fin (EM.step sess θ rows).comps.length) (i' : Fin (absL (EM.step sess θ rows) c')),
      (absParams (EM.step sess θ rows)).m c' i' ≠
        (castParams (step_comps_length sess θ rows hshape hflags)
          (step_absL sess θ rows hshape hflags) (absStep sess θ rows)).m c' i' := by
  obtain ⟨c', i', h, hcast⟩ := exists_step_position sess θ rows hshape hflags c i
  refine ⟨c', i', ?_⟩
  rw [(hcast _).1]
  change (levelAt (EM.step sess θ rows) c' i').m ≠ _
  rw [h, newLevel_null _ _ _ _ _ hn]
  unfold absStep EML.emStep
  simp only [hf, Bool.false_eq_true, if_false]
  rwa [EML.newBlock_unobserved _ _ _ _ _ (not_observed_of_null θ rows c i hn)]

end deviation

/-! ## A model with one comparison -/

section one
variable {θ : EM.Params ℝ} {r : EM.Row ℝ} {l : Level ℝ}

theorem rowLevel_some {ci : ℕ} (h : rowLevel θ r ci = some l) :
    ∃ c v, θ.comps[ci]? = some c ∧ EM.gammaAt θ r ci = some v ∧
      c.find? (fun l => l.cvv == v) = some l := by
  unfold rowLevel at h
  split at h
  · exact ⟨_, _, ‹_›, ‹_›, h⟩
  · cases h

theorem rowLevel_single {c : Comparison ℝ} {g : List B3} (hc : θ.comps = [c])
    (hg : r.pair.guards = [g]) :
    rowLevel θ r 0 = selLevel c g := by
  rw [rowLevel_eq θ r 0 (by rw [hc]; exact Nat.one_pos) (by rw [hg]; exact Nat.one_pos)]
  simp only [hc, hg, List.getElem_cons_zero]

theorem execLik_one (h1 : θ.comps.length = 1) (hl : rowLevel θ r 0 = some l)
    (hn : l.isNull = false) : execLik θ r = θ.prior * l.m + (1 - θ.prior) * l.u := by
  unfold execLik
  rw [h1]
  simp [hl, mFactor, uFactor, hn]

theorem eProb_one (h1 : θ.comps.length = 1) (hg : r.pair.guards.length = 1)
    (hl0 : 0 < θ.prior) (hl1 : θ.prior < 1) (hnotf : NoTf θ) (hpos : PositiveMU θ)
    (hl : rowLevel θ r 0 = some l) (hn : l.isNull = false) :
    EM.eProb θ r = θ.prior * l.m / execLik θ r := by
  rw [eProb_eq_div θ r hl0 hl1 hnotf hpos (hg.trans h1.symm), h1]
  · simp [hl, mFactor, hn]
  · intro c hc
    obtain rfl : c = 0 := by omega
    obtain ⟨_, _, _, hv, _⟩ := rowLevel_some hl
    rw [hv]
    rfl

/-- a level with `m = u` carries no evidence: the E-step returns the prior -/
theorem eProb_one_of_eq (h1 : θ.comps.length = 1) (hg : r.pair.guards.length = 1)
    (hl0 : 0 < θ.prior) (hl1 : θ.prior < 1) (hnotf : NoTf θ) (hpos : PositiveMU θ)
    (hl : rowLevel θ r 0 = some l) (hn : l.isNull = false) (hmu : l.u = l.m) :
    EM.eProb θ r = θ.prior := by
  obtain ⟨c, _, hc, _, hf⟩ := rowLevel_some hl
  have hm : l.m ≠ 0 :=
    (hpos c (List.mem_of_getElem? hc) l (List.mem_of_find?_eq_some hf) hn).1.ne'
  have e : θ.prior * l.m + (1 - θ.prior) * l.m = l.m := by ring
  rw [eProb_one h1 hg hl0 hl1 hnotf hpos hl hn, execLik_one h1 hl hn, hmu, e, mul_div_assoc,
    div_self hm, mul_one]

theorem execLik_step_one (sess : EM.Session) (rows : List (EM.Row ℝ)) (h1 : θ.comps.length = 1)
    (hshape : SameShape θ) (hflags : LevelFlagsOff θ) (hl : rowLevel θ r 0 = some l)
    (hn : l.isNull = false) :
    execLik (EM.step sess θ rows) r =
      (EM.step sess θ rows).prior * (newLevel sess θ rows 0 l).m +
        (1 - (EM.step sess θ rows).prior) * (newLevel sess θ rows 0 l).u :=
  execLik_one ((step_comps_length sess θ rows hshape hflags).trans h1)
    (by rw [rowLevel_step sess θ rows hshape hflags r 0 (by omega), hl]; rfl)
    ((newLevel_isNull sess θ rows 0 l).trans hn)

end one

end SplinkVerif.Lemmas.EMMBridge
