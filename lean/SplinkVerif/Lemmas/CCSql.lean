import Mathlib.Data.List.Nodup
import Mathlib.Data.List.Perm.Basic
import SplinkVerif.Lemmas.Rel
import SplinkVerif.Lemmas.CC
import SplinkVerif.Model.CCSql
/-!
# The regenerated SQL of `solve_connected_components` refines the functional model

Every statement of `Generated/CCSql.lean` has a lemma: if the tables it reads hold such and such rows of the model
(`CC.firstIter`, `CC.step`, as functions of the node), so does its result under `Rel.eval`.  `runStmts_meets` chains
them into `init_rep` and `pass_rep`, which establish and keep `Rep`: the SQL loop state holds the model's state on a
node subset `S` closed under the neighbour function (`SubOK`; nodes outside are isolated and never need updating).
`S` is all nodes for C05; the multi-threshold clustering (C11, `Lemmas/MultiSql.lean`) runs the same statements on the
nodes still in play, which is why every lemma here is about a subset.
The control flow of `Model/CCSql.lean` then follows `CC.loop` (`cluster_core`, `trace_core`).
-/
namespace SplinkVerif.C05Sql
open SplinkVerif SplinkVerif.Rel

/-- The edges the functional model keeps: `match_probability >= threshold` on integer order keys. -/
def kept (thr : Option Int) (edges : List (Nat × Nat × Int)) : List CC.Edge :=
  CC.thresholdEdges (fun (a b : Int) => decide (a ≥ b)) thr edges

end SplinkVerif.C05Sql

namespace SplinkVerif.Lemmas.CCSql
open SplinkVerif SplinkVerif.Rel SplinkVerif.Lemmas.Rel SplinkVerif.Gen.CCSql
open SplinkVerif.C05Sql (kept)

/-- A node id as a SQL value. -/
abbrev iv (i : Nat) : Val := Val.int (i : Int)

/-- A result row `(node_id, cluster_id)`. -/
def pairRow (p : Nat × Nat) : Row := [Val.int (p.1 : Int), Val.int (p.2 : Int)]

/-- Evaluate scalar expressions on concrete rows. -/
macro "ev_simp" : tactic =>
  `(tactic| simp [Expr.holds, Expr.eval, List.getD_cons_zero, List.getD_cons_succ])
macro "ev_simp" "at" h:ident : tactic =>
  `(tactic| simp [Expr.holds, Expr.eval, List.getD_cons_zero, List.getD_cons_succ] at $h:ident)

/-! ## Node ids as SQL values -/

theorem ne_cast (a b : Nat) : decide ((a : Int) ≠ (b : Int)) = (a != b) :=
  natCast_ne_decide a b

theorem iv_inj {a b : Nat} : iv a = iv b ↔ a = b :=
  int_natCast_inj

theorem holds_col_bool {row : Row} {c : Nat} {b : Bool} (h : row.getD c .null = .bool b) :
    (Expr.col c).holds row = b := by
  rw [Expr.holds, Expr.eval, h]
  cases b <;> rfl

theorem pairRow_inj {p q : Nat × Nat} (h : pairRow p = pairRow q) : p = q := by
  unfold pairRow at h
  have h1 : iv p.1 = iv q.1 := by injection h
  have h2 : iv p.2 = iv q.2 := by
    injection h with _ h'
    injection h'
  exact Prod.ext (iv_inj.mp h1) (iv_inj.mp h2)

theorem nodup_map_rows {L : List Nat} (hL : L.Nodup) (f : Nat → Row)
    (hf : ∀ i, (f i).getD 0 .null = iv i) : (L.map f).Nodup := by
  apply List.Nodup.map_on _ hL
  intro x _ y _ h
  have := hf x
  rw [h, hf y] at this
  exact (iv_inj.mp this).symm

/-! ## The join back that sets `needs_updating` -/

/-- `SELECT a.node_id, a.representative, a.representative <> b.representative FROM A a [LEFT] JOIN B b
ON a.node_id = b.node_id`, the join back that sets `needs_updating`: `A` holds `(i, new i)` and `B` one row beginning
`(i, old i)` for each `i ∈ L`. -/
theorem needsUpdating_perm {L : List Nat} (hL : L.Nodup) (new old : Nat → Nat) (fb : Nat → Row)
    (h0 : ∀ i, (fb i).getD 0 .null = iv i) (h1 : ∀ i, (fb i).getD 1 .null = iv (old i)) (left : Bool) (bw : Nat)
    {A B : List Row} (hA : A.Perm (L.map fun i => [iv i, iv (new i)])) (hB : B.Perm (L.map fb)) :
    ((joinRows left (Expr.cmp Cmp.eq (Expr.col 0) (Expr.col 2)) A B bw).map fun x =>
        [Expr.col 0, Expr.col 1, Expr.cmp Cmp.ne (Expr.col 1) (Expr.col 3)].map (·.eval x)).Perm
      (L.map fun i => [iv i, iv (new i), Val.bool (new i != old i)]) := by
  have hBm : ∀ row, row ∈ B ↔ ∃ i, i ∈ L ∧ fb i = row := fun row => hB.mem_iff.trans List.mem_map
  have h2 : ∀ i k, ([iv i, iv (new i)] ++ fb k).getD 2 .null = iv k := fun _ k => h0 k
  have h3 : ∀ i, ([iv i, iv (new i)] ++ fb i).getD 3 .null = iv (old i) := h1
  have hJ := joinRows_lookup L (fun i => [iv i, iv (new i)]) fb left
    (Expr.cmp Cmp.eq (Expr.col 0) (Expr.col 2)) A B bw hA (hB.nodup_iff.mpr (nodup_map_rows hL fb h0)) (by
      intro i hi
      refine ⟨(hBm _).mpr ⟨i, hi, rfl⟩, (holds_eq_cols_nat_iff rfl (h2 i i)).mpr rfl, ?_⟩
      intro y hy hon
      obtain ⟨k, _, rfl⟩ := (hBm y).mp hy
      obtain rfl : i = k := (holds_eq_cols_nat_iff rfl (h2 i k)).mp hon
      rfl)
  refine (hJ.map _).trans (List.Perm.of_eq ?_)
  rw [List.map_map]
  exact List.map_congr_left fun i _ => congrArg (fun v => [iv i, iv (new i), v]) (eval_ne_cols_nat rfl (h3 i))

/-! ## `min` per node and `[NOT] IN` over node ids -/

theorem minVals_eq_minOver (vals : List Val) (l : List Nat) (init : Nat)
    (h : ∀ v, v ∈ vals ↔ v = iv init ∨ ∃ x ∈ l, v = iv x) : minVals vals = iv (minOver l init) := by
  apply minVals_eq_int
  · rw [h]
    rcases minOver_mem l init with h' | h'
    · left; rw [h']
    · right; exact ⟨_, h', rfl⟩
  · intro v hv
    rcases (h v).mp hv with rfl | ⟨x, hx, rfl⟩
    · exact ⟨_, rfl, Int.ofNat_le.mpr (minOver_le_init l init)⟩
    · exact ⟨_, rfl, Int.ofNat_le.mpr (minOver_le_mem l init x hx)⟩

/-- `SELECT key, min(c) … GROUP BY key` on integer-coded naturals: if the keys are the members of the duplicate-free
`L` and the `c`-values in the group of `i` are `init i` and the members of `g i`, the result has one row
`(i, minOver (g i) (init i))` per `i ∈ L`. -/
theorem groupMin_perm (rows : List Row) (c : Nat) (L : List Nat) (hL : L.Nodup) (g : Nat → List Nat)
    (init : Nat → Nat)
    (hrows : ∀ row ∈ rows, ∃ i ∈ L, row.getD 0 .null = iv i)
    (hvals : ∀ i ∈ L, ∀ v, (∃ row ∈ rows, row.getD 0 .null = iv i ∧ row.getD c .null = v) ↔
      (v = iv (init i) ∨ ∃ x ∈ g i, v = iv x)) :
    (groupRows [Expr.col 0] [Agg.min (Expr.col c)] rows).Perm
      (L.map fun i => [iv i, iv (minOver (g i) (init i))]) := by
  have hinj : ∀ x ∈ L, ∀ y ∈ L,
      [iv x, iv (minOver (g x) (init x))] = [iv y, iv (minOver (g y) (init y))] → x = y := by
    intro x _ y _ h
    have h' : iv x = iv y := by injection h
    exact iv_inj.mp h'
  apply (List.perm_ext_iff_of_nodup (nodup_groupRows (by simp)) (List.Nodup.map_on hinj hL)).mpr
  intro row
  rw [mem_groupRows (by simp), List.mem_map]
  have key : ∀ x ∈ rows, ∀ i ∈ L, x.getD 0 .null = iv i →
      [Expr.col 0].map (·.eval x) ++ [Agg.min (Expr.col c)].map
        (·.eval (rows.filter fun y => [Expr.col 0].map (·.eval y) == [Expr.col 0].map (·.eval x)))
      = [iv i, iv (minOver (g i) (init i))] := by
    intro x _ i hi hxi
    simp only [List.map_cons, List.map_nil, Expr.eval, hxi, Agg.eval, List.cons_append,
      List.nil_append]
    congr 2
    apply minVals_eq_minOver
    intro v
    rw [← hvals i hi v, List.mem_map]
    constructor
    · rintro ⟨y, hy, rfl⟩
      obtain ⟨hy1, hy2⟩ := List.mem_filter.mp hy
      refine ⟨y, hy1, ?_, rfl⟩
      simpa using hy2
    · rintro ⟨y, hy, hyi, rfl⟩
      refine ⟨y, List.mem_filter.mpr ⟨hy, ?_⟩, rfl⟩
      rw [hyi]
      exact beq_self_eq_true _
  constructor
  · rintro ⟨x, hx, rfl⟩
    obtain ⟨i, hi, hxi⟩ := hrows x hx
    exact ⟨i, hi, (key x hx i hi hxi).symm⟩
  · rintro ⟨i, hi, rfl⟩
    obtain ⟨x, hx, hxi, _⟩ := (hvals i hi (iv (init i))).mpr (Or.inl rfl)
    exact ⟨x, hx, (key x hx i hi hxi).symm⟩

/-- `groupMin_perm` for rows `mk i j` that pair a node `i ∈ L` with itself and with every `j ∈ g i` and carry
`f j` in column `c`. -/
theorem groupMin_perm_of_mem (rows : List Row) (c : Nat) (L : List Nat) (hL : L.Nodup) (g : Nat → List Nat)
    (f : Nat → Nat) (mk : Nat → Nat → Row) (h0 : ∀ i j, (mk i j).getD 0 .null = iv i)
    (hc : ∀ i j, (mk i j).getD c .null = iv (f j))
    (hmem : ∀ row, row ∈ rows ↔ ∃ i j, i ∈ L ∧ (j = i ∨ j ∈ g i) ∧ row = mk i j) :
    (groupRows [Expr.col 0] [Agg.min (Expr.col c)] rows).Perm
      (L.map fun i => [iv i, iv (minOver ((g i).map f) (f i))]) := by
  apply groupMin_perm rows c L hL (fun i => (g i).map f) f
  · intro row hrow
    obtain ⟨i, j, hi, _, rfl⟩ := (hmem row).mp hrow
    exact ⟨i, hi, h0 i j⟩
  · intro i hi v
    constructor
    · rintro ⟨row, hrow, hr0, rfl⟩
      obtain ⟨i', j, _, hj, rfl⟩ := (hmem row).mp hrow
      obtain rfl : i' = i := iv_inj.mp ((h0 i' j).symm.trans hr0)
      rw [hc]
      exact hj.imp (congrArg fun k => iv (f k)) fun h => ⟨f j, List.mem_map_of_mem h, rfl⟩
    · rintro (rfl | ⟨x, hx, rfl⟩)
      · exact ⟨mk i i, (hmem _).mpr ⟨i, i, hi, Or.inl rfl, rfl⟩, h0 i i, hc i i⟩
      · obtain ⟨j, hj, rfl⟩ := List.mem_map.mp hx
        exact ⟨mk i j, (hmem _).mpr ⟨i, j, hi, Or.inr hj, rfl⟩, h0 i j, hc i j⟩

/-- The values of `SELECT col c FROM T`, as used by `[NOT] IN`. -/
theorem mem_subVals {T : List Row} {c : Nat} {v : Val} :
    v ∈ ((T.map fun row => [Expr.col c].map (·.eval row)).map fun row => row.getD 0 .null) ↔
      ∃ row ∈ T, row.getD c .null = v := by
  rw [List.map_map, List.mem_map]
  constructor
  · rintro ⟨row, hrow, rfl⟩; exact ⟨row, hrow, by simp [Expr.eval]⟩
  · rintro ⟨row, hrow, rfl⟩; exact ⟨row, hrow, by simp [Expr.eval]⟩

/-- `a IN (SELECT col c FROM T)` for a node id `a`. -/
theorem in_subVals (T : List Row) (c a : Nat) (b : Bool)
    (h : (∃ row ∈ T, row.getD c .null = iv a) ↔ b = true) :
    (inVals (iv a) ((T.map fun row => [Expr.col c].map (·.eval row)).map fun row => row.getD 0 .null)
      == .bool true) = b :=
  (inVals_pos (iv a) _ nofun).trans (Lists.contains_eq_of_mem_iff (mem_subVals.trans h))

/-- `a NOT IN (SELECT col c FROM T)` for a node id `a`, when column `c` of `T` holds no NULL. -/
theorem notIn_subVals (T : List Row) (c a : Nat) (b : Bool) (hn : ∀ row ∈ T, row.getD c .null ≠ .null)
    (h : (∃ row ∈ T, row.getD c .null = iv a) ↔ b = false) :
    (not3 (inVals (iv a) ((T.map fun row => [Expr.col c].map (·.eval row)).map fun row => row.getD 0 .null))
      == .bool true) = b := by
  rw [inVals_neg (iv a) _ nofun, ← Bool.not_not b]
  · exact congrArg _ (Lists.contains_eq_of_mem_iff (mem_subVals.trans (h.trans (iff_of_eq (Bool.not_eq_true' b)).symm)))
  · intro hm
    obtain ⟨row, hrow, h⟩ := mem_subVals.mp hm
    exact hn row hrow h

/-! ## Input encodings -/

/-- The nodes table of a node subset `S` (in any order); `CCSql.nodeRows n = nodeRowsS (List.range n)`. -/
def nodeRowsS (S : List Nat) : List Row := S.map fun (i : Nat) => [Val.int (i : Int)]

theorem nodeRows_eq (n : Nat) : CCSql.nodeRows n = nodeRowsS (List.range n) := rfl

theorem mem_nodeRowsS {S : List Nat} {row : Row} : row ∈ nodeRowsS S ↔ ∃ i, i ∈ S ∧ row = [iv i] := by
  unfold nodeRowsS
  rw [List.mem_map]
  constructor
  · rintro ⟨i, hi, rfl⟩; exact ⟨i, hi, rfl⟩
  · rintro ⟨i, hi, rfl⟩; exact ⟨i, hi, rfl⟩

theorem mem_edgeRows {edges : List (Nat × Nat × Int)} {row : Row} :
    row ∈ CCSql.edgeRows edges ↔ ∃ a b k, (a, b, k) ∈ edges ∧ row = [iv a, iv b, Val.int k] := by
  unfold CCSql.edgeRows
  rw [List.mem_map]
  constructor
  · rintro ⟨⟨a, b, k⟩, he, rfl⟩; exact ⟨a, b, k, he, rfl⟩
  · rintro ⟨a, b, k, he, rfl⟩; exact ⟨(a, b, k), he, rfl⟩

theorem mem_kept {thr : Option Int} {edges : List (Nat × Nat × Int)} {a b : Nat} :
    (a, b) ∈ kept thr edges ↔ ∃ k, (a, b, k) ∈ edges ∧ ∀ t, thr = some t → t ≤ k := by
  unfold kept
  simp only [mem_thresholdEdges, ge_iff_le, decide_eq_true_eq]

theorem kept_mem_S {S : List Nat} {thr : Option Int} {edges : List (Nat × Nat × Int)}
    (hE : ∀ e ∈ edges, e.1 ∈ S ∧ e.2.1 ∈ S) : ∀ e ∈ kept thr edges, e.1 ∈ S ∧ e.2 ∈ S :=
  thresholdEdges_ends _ thr edges (· ∈ S) hE

/-! ## Node subsets closed under the neighbour function -/

/-- The neighbour function `CC.run` and `CC.trace` use on the kept edges. -/
def nbOf (n : Nat) (thr : Option Int) (edges : List (Nat × Nat × Int)) : Nat → List Nat :=
  (CC.neighbours n (kept thr edges)).get

theorem mem_nbOf {n : Nat} {thr : Option Int} {edges : List (Nat × Nat × Int)} {i j : Nat} :
    j ∈ nbOf n thr edges i ↔
      ((i, j) ∈ kept thr edges ∨ (j, i) ∈ kept thr edges) ∨ (i < n ∧ i = j) :=
  mem_nb n _ i j

/-- What the bridging needs to know about the node subset `S` and the neighbour function. -/
structure SubOK (n : Nat) (S : List Nat) (nb : Nat → List Nat) : Prop where
  nodup : S.Nodup
  lt : ∀ i ∈ S, i < n
  self : ∀ i ∈ S, i ∈ nb i
  closed : ∀ i ∈ S, ∀ j ∈ nb i, j ∈ S
  outside : ∀ i, i ∉ S → ∀ j ∈ nb i, j = i

theorem subOK_nbOf (n : Nat) (S : List Nat) (edges : List (Nat × Nat × Int)) (thr : Option Int)
    (hS : S.Nodup) (hSn : ∀ i ∈ S, i < n) (hE : ∀ e ∈ edges, e.1 ∈ S ∧ e.2.1 ∈ S) :
    SubOK n S (nbOf n thr edges) where
  nodup := hS
  lt := hSn
  self := fun i hi => mem_nbOf.mpr (Or.inr ⟨hSn i hi, rfl⟩)
  closed := by
    intro i hi j hj
    rcases mem_nbOf.mp hj with (h | h) | ⟨_, h⟩
    · exact (kept_mem_S hE _ h).2
    · exact (kept_mem_S hE _ h).1
    · exact h ▸ hi
  outside := by
    intro i hi j hj
    rcases mem_nbOf.mp hj with (h | h) | ⟨_, h⟩
    · exact absurd (kept_mem_S hE _ h).1 hi
    · exact absurd (kept_mem_S hE _ h).2 hi
    · exact h.symm

theorem hasForeign_outside {n : Nat} {S : List Nat} {nb : Nat → List Nat} (hok : SubOK n S nb) (s : CC.St)
    {i : Nat} (hi : i ∉ S) : CC.hasForeign nb s i = false := by
  rw [← Bool.not_eq_true, hasForeign_iff]
  rintro ⟨j, hj, _, hne⟩
  rw [hok.outside i hi j hj] at hne
  exact hne rfl

/-- `non_stable_representatives` of the model only depends on the nodes of `S`. -/
theorem nonStable_iff_sub {n : Nat} {S : List Nat} {nb : Nat → List Nat} (hok : SubOK n S nb) {s : CC.St}
    {g : Nat} :
    CC.nonStable n nb s g = true ↔
      ∃ i, i ∈ S ∧ s.live i = true ∧ s.rep i = g ∧ CC.hasForeign nb s i = true := by
  rw [nonStable_iff]
  constructor
  · rintro ⟨i, _, h1, h2, h3⟩
    refine ⟨i, ?_, h1, h2, h3⟩
    by_contra hc
    rw [hasForeign_outside hok s hc] at h3
    cases h3
  · rintro ⟨i, hi, h⟩
    exact ⟨i, hok.lt i hi, h⟩

theorem minOver_outside {n : Nat} {S : List Nat} {nb : Nat → List Nat} (hok : SubOK n S nb) {i : Nat}
    (hi : i ∉ S) (f : Nat → Nat) {l : List Nat} (hl : ∀ j ∈ l, j ∈ nb i) : minOver (l.map f) (f i) = f i := by
  apply minOver_const
  intro x hx
  obtain ⟨j, hj, rfl⟩ := List.mem_map.mp hx
  rw [hok.outside i hi j (hl j hj)]

theorem firstIter_upd_outside {n : Nat} {S : List Nat} {nb : Nat → List Nat} (hok : SubOK n S nb)
    (i : Nat) (hi : i ∉ S) : (CC.firstIter n nb).upd i = false := by
  rw [firstIter_upd, firstIter_rep, minOver_outside hok hi _ fun _ h => h]
  exact bne_self_eq_false _

theorem step_upd_outside {n : Nat} {S : List Nat} {nb : Nat → List Nat} (hok : SubOK n S nb) (s : CC.St)
    (i : Nat) (hi : i ∉ S) : (CC.step n nb s).upd i = false := by
  have h : rep' n nb s i = s.rep i := by
    unfold rep'
    split
    · exact minOver_outside hok hi _ fun _ h => (List.mem_filter.mp h).1
    · rfl
  rw [step_upd, h, bne_self_eq_false, Bool.and_false]

theorem updCount_eq {n : Nat} {S : List Nat} (hS : S.Nodup) (hSn : ∀ i ∈ S, i < n) (s : CC.St)
    (hout : ∀ i, i ∉ S → s.upd i = false) :
    (S.filter fun i => s.live i && s.upd i).length = CC.updCount n s := by
  unfold CC.updCount
  apply List.Perm.length_eq
  apply (List.perm_ext_iff_of_nodup (hS.filter _) (List.nodup_range.filter _)).mpr
  intro a
  simp only [List.mem_filter, List.mem_range, Bool.and_eq_true]
  constructor
  · rintro ⟨h1, h2⟩; exact ⟨hSn a h1, h2⟩
  · rintro ⟨_, h1, h2⟩
    refine ⟨?_, h1, h2⟩
    by_contra hc
    rw [hout a hc] at h2
    cases h2

/-! ## The preamble -/

/-- `__splink__df_edges_with_self_loops` (with or without threshold): kept edges and a self loop per node. -/
theorem edgesStmt_mem (S : List Nat) (edges : List (Nat × Nat × Int)) (thr : Option Int) (db : Db)
    (hN : (db "nodes_in").Perm (nodeRowsS S)) (hE : (db "edges_in").Perm (CCSql.edgeRows edges))
    (row : Row) :
    row ∈ (match thr.map Val.int with
        | some t => dfEdgesWithSelfLoops t
        | none => dfEdgesWithSelfLoopsNoThr).eval db ↔
      ∃ a b, ((a, b) ∈ kept thr edges ∨ (a ∈ S ∧ a = b)) ∧ row = [iv a, iv b] := by
  cases thr with
  | none =>
    simp only [Option.map_none, dfEdgesWithSelfLoopsNoThr, mem_union, mem_project, eval_table,
      hN.mem_iff, hE.mem_iff, mem_nodeRowsS, mem_edgeRows]
    constructor
    · rintro (⟨x, ⟨a, b, k, he, rfl⟩, rfl⟩ | ⟨x, ⟨i, hi, rfl⟩, rfl⟩)
      · refine ⟨a, b, Or.inl ?_, rfl⟩
        exact mem_kept.mpr ⟨k, he, fun t ht => by cases ht⟩
      · exact ⟨i, i, Or.inr ⟨hi, rfl⟩, rfl⟩
    · rintro ⟨a, b, hab, rfl⟩
      rcases hab with h | ⟨h1, h2⟩
      · obtain ⟨k, hk, _⟩ := mem_kept.mp h
        exact Or.inl ⟨_, ⟨a, b, k, hk, rfl⟩, rfl⟩
      · subst h2
        exact Or.inr ⟨_, ⟨a, h1, rfl⟩, rfl⟩
  | some t =>
    simp only [Option.map_some, dfEdgesWithSelfLoops, mem_union, mem_project, mem_filter, eval_table,
      hN.mem_iff, hE.mem_iff, mem_nodeRowsS, mem_edgeRows]
    constructor
    · rintro (⟨x, ⟨⟨a, b, k, he, rfl⟩, hh⟩, rfl⟩ | ⟨x, ⟨i, hi, rfl⟩, rfl⟩)
      · refine ⟨a, b, Or.inl ?_, rfl⟩
        refine mem_kept.mpr ⟨k, he, fun t' ht => ?_⟩
        cases ht
        ev_simp at hh
        exact hh
      · exact ⟨i, i, Or.inr ⟨hi, rfl⟩, rfl⟩
    · rintro ⟨a, b, hab, rfl⟩
      rcases hab with h | ⟨h1, h2⟩
      · obtain ⟨k, hk, hle⟩ := mem_kept.mp h
        refine Or.inl ⟨_, ⟨⟨a, b, k, hk, rfl⟩, ?_⟩, rfl⟩
        ev_simp
        exact hle t rfl
      · subst h2
        exact Or.inr ⟨_, ⟨a, h1, rfl⟩, rfl⟩

/-- `nodes_ids_only` is the nodes table. -/
theorem nodesIdsOnly_eval (S : List Nat) (db : Db) (hN : (db "nodes_in").Perm (nodeRowsS S)) :
    (nodesIdsOnly.eval db).Perm (nodeRowsS S) := by
  unfold nodesIdsOnly
  rw [eval_project, eval_table]
  refine (hN.map _).trans (List.Perm.of_eq ?_)
  unfold nodeRowsS
  rw [List.map_map]
  apply List.map_congr_left
  intro i _
  ev_simp

/-- Membership of the neighbours table restricted to the live nodes of `S` (before the loop every node is live). -/
def NbrsSpec (S : List Nat) (nb : Nat → List Nat) (live : Nat → Bool) (T : List Row) : Prop :=
  ∀ row, row ∈ T ↔ ∃ i j, i ∈ S ∧ live i = true ∧ j ∈ nb i ∧ row = [iv i, iv j]

/-- `__splink__df_neighbours` ↔ `CC.neighboursOf` on the nodes of the subset. -/
theorem dfNeighbours_mem (n : Nat) (S : List Nat) (edges : List (Nat × Nat × Int)) (thr : Option Int)
    (hSn : ∀ i ∈ S, i < n) (db : Db)
    (hN : (db "nodes_ids_only").Perm (nodeRowsS S))
    (hEs : ∀ row, row ∈ db "__splink__df_edges_with_self_loops" ↔
      ∃ a b, ((a, b) ∈ kept thr edges ∨ (a ∈ S ∧ a = b)) ∧ row = [iv a, iv b]) :
    NbrsSpec S (nbOf n thr edges) (fun _ => true) (dfNeighbours.eval db) := by
  -- every node meets its self loop on either column, so the `LEFT JOIN`s add no NULL row
  have hmatch : ∀ c, c = 1 ∨ c = 2 → ∀ ra ∈ db "nodes_ids_only", ∃ rb ∈ db "__splink__df_edges_with_self_loops",
      (Expr.cmp Cmp.eq (Expr.col 0) (Expr.col c)).holds (ra ++ rb) = true := by
    intro c hc ra hra
    obtain ⟨i, hi, rfl⟩ := mem_nodeRowsS.mp (hN.mem_iff.mp hra)
    refine ⟨[iv i, iv i], (hEs _).mpr ⟨i, i, Or.inr ⟨hi, rfl⟩, rfl⟩, (holds_eq_cols_nat_iff rfl ?_).mpr rfl⟩
    rcases hc with rfl | rfl
    · rfl
    · rfl
  intro row
  simp only [dfNeighbours, mem_union, mem_project, eval_join, eval_table,
    mem_joinRows_left_of_match (hmatch 1 (Or.inl rfl)), mem_joinRows_left_of_match (hmatch 2 (Or.inr rfl))]
  constructor
  · rintro (⟨x, ⟨ra, hra, rb, hrb, hon, rfl⟩, rfl⟩ | ⟨x, ⟨ra, hra, rb, hrb, hon, rfl⟩, rfl⟩)
    · obtain ⟨i, hi, rfl⟩ := mem_nodeRowsS.mp (hN.mem_iff.mp hra)
      obtain ⟨a, b, hab, rfl⟩ := (hEs _).mp hrb
      obtain rfl : i = a := (holds_eq_cols_nat_iff rfl rfl).mp hon
      refine ⟨i, b, hi, trivial, mem_nbOf.mpr ?_, rfl⟩
      rcases hab with h | ⟨_, h⟩
      · exact Or.inl (Or.inl h)
      · exact Or.inr ⟨hSn i hi, h⟩
    · obtain ⟨i, hi, rfl⟩ := mem_nodeRowsS.mp (hN.mem_iff.mp hra)
      obtain ⟨a, b, hab, rfl⟩ := (hEs _).mp hrb
      obtain rfl : i = b := (holds_eq_cols_nat_iff rfl rfl).mp hon
      refine ⟨i, a, hi, trivial, mem_nbOf.mpr ?_, rfl⟩
      rcases hab with h | ⟨_, h⟩
      · exact Or.inl (Or.inr h)
      · exact Or.inr ⟨hSn i hi, h.symm⟩
  · rintro ⟨i, j, hi, -, hj, rfl⟩
    have hnode : [iv i] ∈ db "nodes_ids_only" := hN.mem_iff.mpr (mem_nodeRowsS.mpr ⟨i, hi, rfl⟩)
    rcases mem_nbOf.mp hj with (h | h) | ⟨_, h⟩
    · left
      exact ⟨_, ⟨[iv i], hnode, [iv i, iv j], (hEs _).mpr ⟨i, j, Or.inl h, rfl⟩, (holds_eq_cols_nat_iff rfl rfl).mpr rfl, rfl⟩,
        rfl⟩
    · right
      exact ⟨_, ⟨[iv i], hnode, [iv j, iv i], (hEs _).mpr ⟨j, i, Or.inl h, rfl⟩, (holds_eq_cols_nat_iff rfl rfl).mpr rfl, rfl⟩,
        rfl⟩
    · subst h
      left
      exact ⟨_, ⟨[iv i], hnode, [iv i, iv i], (hEs _).mpr ⟨i, i, Or.inr ⟨hi, rfl⟩, rfl⟩, (holds_eq_cols_nat_iff rfl rfl).mpr rfl,
        rfl⟩, rfl⟩


/-- `representatives` ↔ `CC.initialRep`. -/
theorem representatives_eval {n : Nat} {S : List Nat} {nb : Nat → List Nat} (hok : SubOK n S nb) (db : Db)
    (hNb : NbrsSpec S nb (fun _ => true) (db "__splink__df_neighbours")) :
    (representatives.eval db).Perm (S.map fun i => [iv i, iv (CC.initialRep nb i)]) := by
  unfold representatives
  rw [eval_groupBy, eval_table]
  refine (groupMin_perm_of_mem _ 1 S hok.nodup nb id (fun i j => [iv i, iv j]) (fun _ _ => rfl) (fun _ _ => rfl)
    fun row => (hNb row).trans ?_).trans (List.Perm.of_eq ?_)
  · constructor
    · rintro ⟨i, j, hi, -, hj, rfl⟩
      exact ⟨i, j, hi, Or.inr hj, rfl⟩
    · rintro ⟨i, j, hi, hj, rfl⟩
      exact ⟨i, j, hi, rfl, hj.elim (· ▸ hok.self i hi) id, rfl⟩
  · simp only [List.map_id, CC.initialRep, id]

/-- The `representative` column of `neighbours_first_iter`. -/
def rep1 (nb : Nat → List Nat) (i : Nat) : Nat :=
  minOver ((nb i).map (CC.initialRep nb)) (CC.initialRep nb i)

/-- `neighbours_first_iter` ↔ the `rep` column of `CC.firstIter`. -/
theorem neighboursFirstIter_eval {n : Nat} {S : List Nat} {nb : Nat → List Nat} (hok : SubOK n S nb)
    (db : Db)
    (hNb : NbrsSpec S nb (fun _ => true) (db "__splink__df_neighbours"))
    (hR : (db "representatives").Perm (S.map fun i => [iv i, iv (CC.initialRep nb i)])) :
    (neighboursFirstIter.eval db).Perm (S.map fun i => [iv i, iv (rep1 nb i)]) := by
  have hRm : ∀ row, row ∈ db "representatives" ↔ ∃ i, i ∈ S ∧ [iv i, iv (CC.initialRep nb i)] = row :=
    fun row => hR.mem_iff.trans List.mem_map
  have hmatch : ∀ ra ∈ db "__splink__df_neighbours", ∃ rb ∈ db "representatives",
      (Expr.cmp Cmp.eq (Expr.col 1) (Expr.col 2)).holds (ra ++ rb) = true := by
    intro ra hra
    obtain ⟨i, j, hi, -, hj, rfl⟩ := (hNb ra).mp hra
    exact ⟨_, (hRm _).mpr ⟨j, hok.closed i hi j hj, rfl⟩, (holds_eq_cols_nat_iff rfl rfl).mpr rfl⟩
  have hJ : ∀ row, row ∈ joinRows true (Expr.cmp Cmp.eq (Expr.col 1) (Expr.col 2))
      (db "__splink__df_neighbours") (db "representatives") 2 ↔
      ∃ i j, i ∈ S ∧ (j = i ∨ j ∈ nb i) ∧ row = [iv i, iv j, iv j, iv (CC.initialRep nb j)] := by
    intro row
    rw [mem_joinRows_left_of_match hmatch]
    constructor
    · rintro ⟨ra, hra, rb, hrb, hon, rfl⟩
      obtain ⟨i, j, hi, -, hj, rfl⟩ := (hNb ra).mp hra
      obtain ⟨k, hk, rfl⟩ := (hRm rb).mp hrb
      obtain rfl : j = k := (holds_eq_cols_nat_iff rfl rfl).mp hon
      exact ⟨i, j, hi, Or.inr hj, rfl⟩
    · rintro ⟨i, j, hi, hj, rfl⟩
      have hj : j ∈ nb i := hj.elim (· ▸ hok.self i hi) id
      exact ⟨[iv i, iv j], (hNb _).mpr ⟨i, j, hi, rfl, hj, rfl⟩, [iv j, iv (CC.initialRep nb j)],
        (hRm _).mpr ⟨j, hok.closed i hi j hj, rfl⟩, (holds_eq_cols_nat_iff rfl rfl).mpr rfl, rfl⟩
  unfold neighboursFirstIter rep1
  rw [eval_groupBy, eval_join, eval_table, eval_table]
  exact groupMin_perm_of_mem _ 3 S hok.nodup nb (CC.initialRep nb)
    (fun i j => [iv i, iv j, iv j, iv (CC.initialRep nb j)]) (fun _ _ => rfl) (fun _ _ => rfl) hJ

/-- A row of the representatives table of the loop. -/
def reprRow (s : CC.St) (i : Nat) : Row := [iv i, iv (s.rep i), Val.bool (s.upd i)]

/-- The representatives table of the loop, restricted to the nodes of `S`. -/
def canonRepr (S : List Nat) (s : CC.St) : List Row := (S.filter s.live).map (reprRow s)

/-- `__splink__df_representatives` ↔ `CC.firstIter`. -/
theorem dfRepresentatives_eval {n : Nat} {S : List Nat} {nb : Nat → List Nat} (hok : SubOK n S nb)
    (db : Db)
    (hF : (db "neighbours_first_iter").Perm (S.map fun i => [iv i, iv (rep1 nb i)]))
    (hR : (db "representatives").Perm (S.map fun i => [iv i, iv (CC.initialRep nb i)])) :
    (dfRepresentatives.eval db).Perm (canonRepr S (CC.firstIter n nb)) := by
  unfold dfRepresentatives
  rw [eval_project, eval_join, eval_table, eval_table]
  refine (needsUpdating_perm hok.nodup (rep1 nb) (CC.initialRep nb) _ (fun _ => rfl) (fun _ => rfl) false 2 hF
    hR).trans (List.Perm.of_eq ?_)
  unfold canonRepr
  rw [List.filter_eq_self.mpr fun a _ => firstIter_live n nb a]
  apply List.map_congr_left
  intro i _
  rw [reprRow, firstIter_upd, firstIter_rep]
  rfl


/-! ## One pass of the loop -/

theorem mem_reprRows {S : List Nat} {s : CC.St} {p : Nat → Bool} {T : List Row}
    (hT : T.Perm ((S.filter p).map (reprRow s))) (row : Row) :
    row ∈ T ↔ ∃ k, k ∈ S ∧ p k = true ∧ row = reprRow s k := by
  rw [hT.mem_iff, List.mem_map]
  constructor
  · rintro ⟨k, hk, rfl⟩
    exact ⟨k, (List.mem_filter.mp hk).1, (List.mem_filter.mp hk).2, rfl⟩
  · rintro ⟨k, h1, h2, rfl⟩
    exact ⟨k, List.mem_filter.mpr ⟨h1, h2⟩, rfl⟩

theorem nodup_canonRepr {S : List Nat} (hS : S.Nodup) (s : CC.St) : (canonRepr S s).Nodup :=
  nodup_map_rows (hS.filter _) _ (fun i => by simp [reprRow])

/-- `non_stable_representatives` ↔ `CC.nonStable`. -/
theorem nonStable_mem {n : Nat} {S : List Nat} {nb : Nat → List Nat} (hok : SubOK n S nb) (s : CC.St)
    (db : Db) (hR : (db "reprPrev").Perm (canonRepr S s)) (hNb : NbrsSpec S nb s.live (db "nbrsPrev"))
    (row : Row) :
    row ∈ bodyNonStableRepresentatives.eval db ↔ ∃ g, CC.nonStable n nb s g = true ∧ row = [iv g] := by
  simp only [bodyNonStableRepresentatives, mem_distinct, mem_project, mem_filter, eval_join, eval_table,
    mem_joinRows_inner, mem_reprRows hR]
  constructor
  · rintro ⟨x, ⟨⟨ra, ⟨ra1, ⟨i, hi, hli, rfl⟩, rb1, hrb1, hon1, rfl⟩, rc, ⟨j', hj', hlj', rfl⟩, hon2, rfl⟩,
      hne⟩, rfl⟩
    obtain ⟨i', j, _, _, hj, rfl⟩ := (hNb rb1).mp hrb1
    obtain rfl : i = i' := (holds_eq_cols_nat_iff rfl rfl).mp hon1
    obtain rfl : j = j' := (holds_eq_cols_nat_iff rfl rfl).mp hon2
    exact ⟨s.rep i, (nonStable_iff_sub hok).mpr ⟨i, hi, hli, rfl,
      hasForeign_iff.mpr ⟨j, hj, hlj', (holds_ne_cols_nat_iff rfl rfl).mp hne⟩⟩, rfl⟩
  · rintro ⟨g, hg, rfl⟩
    obtain ⟨i, hi, hli, rfl, hf⟩ := (nonStable_iff_sub hok).mp hg
    obtain ⟨j, hj, hlj, hne⟩ := hasForeign_iff.mp hf
    have hjS : j ∈ S := hok.closed i hi j hj
    exact ⟨_, ⟨⟨_, ⟨reprRow s i, ⟨i, hi, hli, rfl⟩, [iv i, iv j], (hNb _).mpr ⟨i, j, hi, hli, hj, rfl⟩,
      (holds_eq_cols_nat_iff rfl rfl).mpr rfl, rfl⟩, reprRow s j, ⟨j, hjS, hlj, rfl⟩,
      (holds_eq_cols_nat_iff rfl rfl).mpr rfl, rfl⟩, (holds_ne_cols_nat_iff rfl rfl).mpr hne⟩, rfl⟩

/-- `SELECT * FROM reprPrev WHERE representative NOT IN (SELECT col c FROM T)`. -/
theorem reprNotIn_perm {S : List Nat} (s : CC.St) (db : Db) (hR : (db "reprPrev").Perm (canonRepr S s))
    (T : String) (c : Nat) (q : Nat → Bool) (hn : ∀ row ∈ db T, row.getD c .null ≠ .null)
    (hq : ∀ i ∈ S, s.live i = true → ((∃ row ∈ db T, row.getD c .null = iv (s.rep i)) ↔ q i = false)) :
    ((Rel.whereIn true (Expr.col 1) (Rel.project [Expr.col c] (Rel.table T)) (Rel.table "reprPrev")).eval db).Perm
      ((S.filter fun i => s.live i && q i).map (reprRow s)) := by
  refine (whereIn_map (S.filter s.live) (reprRow s) q true (Expr.col 1) (Rel.project [Expr.col c] (Rel.table T))
    (Rel.table "reprPrev") db hR fun i hi => ?_).trans (List.Perm.of_eq ?_)
  · obtain ⟨hiS, hli⟩ := List.mem_filter.mp hi
    exact notIn_subVals _ c _ _ hn (hq i hiS hli)
  · rw [List.filter_filter]
    exact congrArg _ (List.filter_congr fun i _ => Bool.and_comm _ _)

/-- `stable` ↔ the rows the model moves to `out`. -/
theorem stable_eval {n : Nat} {S : List Nat} {nb : Nat → List Nat} (s : CC.St)
    (db : Db) (hR : (db "reprPrev").Perm (canonRepr S s))
    (hNS : ∀ row, row ∈ db "non_stable_representatives" ↔
      ∃ g, CC.nonStable n nb s g = true ∧ row = [iv g]) :
    (bodyStable.eval db).Perm
      ((S.filter fun i => s.live i && !CC.nonStable n nb s (s.rep i)).map (reprRow s)) := by
  refine reprNotIn_perm s db hR _ 0 _ (fun row hrow => ?_) fun i _ _ => ?_
  · obtain ⟨g, _, rfl⟩ := (hNS row).mp hrow
    nofun
  · rw [Bool.not_eq_false']
    constructor
    · rintro ⟨row, hrow, h⟩
      obtain ⟨g, hg, rfl⟩ := (hNS row).mp hrow
      rw [← iv_inj.mp h]
      exact hg
    · intro h
      exact ⟨[iv (s.rep i)], (hNS _).mpr ⟨_, h, rfl⟩, rfl⟩

/-- `unstable` ↔ the nodes that stay live. -/
theorem unstable_eval {n : Nat} {S : List Nat} {nb : Nat → List Nat} (s : CC.St)
    (db : Db) (hR : (db "reprPrev").Perm (canonRepr S s))
    (hSt : (db "stable").Perm
      ((S.filter fun i => s.live i && !CC.nonStable n nb s (s.rep i)).map (reprRow s))) :
    (bodyUnstable.eval db).Perm ((S.filter (live' n nb s)).map (reprRow s)) := by
  refine reprNotIn_perm s db hR _ 1 _ (fun row hrow => ?_) fun i hi hli => ?_
  · obtain ⟨k, _, _, rfl⟩ := (mem_reprRows hSt row).mp hrow
    nofun
  · constructor
    · rintro ⟨row, hrow, h⟩
      obtain ⟨k, _, hk, rfl⟩ := (mem_reprRows hSt row).mp hrow
      rw [← iv_inj.mp h]
      exact (Bool.not_eq_true' _).mp (Bool.and_eq_true _ _ ▸ hk).2
    · intro h
      exact ⟨reprRow s i, (mem_reprRows hSt _).mpr ⟨i, hi, by rw [hli, h]; rfl, rfl⟩, rfl⟩

/-- `nbrsNext` ↔ the neighbours of the nodes that stay live. -/
theorem nbrsNext_mem {n : Nat} {S : List Nat} {nb : Nat → List Nat} (s : CC.St)
    (db : Db) (hNb : NbrsSpec S nb s.live (db "nbrsPrev"))
    (hU : (db "unstable").Perm ((S.filter (live' n nb s)).map (reprRow s))) :
    NbrsSpec S nb (live' n nb s) (bodyNbrsNext.eval db) := by
  have hin : ∀ i ∈ S, (inVals (iv i) (((db "unstable").map fun row => [Expr.col 0].map (·.eval row)).map
      fun row => row.getD 0 .null) == .bool true) = live' n nb s i := by
    intro i hi
    refine in_subVals _ 0 i _ ⟨?_, fun h => ⟨reprRow s i, (mem_reprRows hU _).mpr ⟨i, hi, h, rfl⟩, rfl⟩⟩
    rintro ⟨r, hr, h⟩
    obtain ⟨k, _, hlk, rfl⟩ := (mem_reprRows hU r).mp hr
    exact iv_inj.mp h ▸ hlk
  intro row
  unfold bodyNbrsNext
  rw [eval_whereIn, eval_project, eval_table, eval_table, mem_whereInRows]
  simp only [Bool.false_eq_true, if_false]
  constructor
  · rintro ⟨hrow, h⟩
    obtain ⟨i, j, hi, _, hj, rfl⟩ := (hNb row).mp hrow
    exact ⟨i, j, hi, (hin i hi).symm.trans h, hj, rfl⟩
  · rintro ⟨i, j, hi, hli, hj, rfl⟩
    exact ⟨(hNb _).mpr ⟨i, j, hi, live'_live hli, hj, rfl⟩, (hin i hi).trans hli⟩

/-- `r` ↔ the new representatives `rep'` of the nodes that stay live. -/
theorem r_eval {n : Nat} {S : List Nat} {nb : Nat → List Nat} (hok : SubOK n S nb) (s : CC.St)
    (db : Db) (hNb : NbrsSpec S nb (live' n nb s) (db "nbrsNext"))
    (hU : (db "unstable").Perm ((S.filter (live' n nb s)).map (reprRow s))) :
    (bodyR.eval db).Perm ((S.filter (live' n nb s)).map fun i => [iv i, iv (rep' n nb s i)]) := by
  -- under the `GROUP BY`: a row `(i, rep i)` per live node, and `(i, rep j)` per live neighbour `j` that needs updating
  have hM : ∀ row, row ∈ (Rel.union true (Rel.project [Expr.col 0, Expr.col 3] (Rel.filter (Expr.col 4)
        (Rel.join false (Expr.cmp Cmp.eq (Expr.col 1) (Expr.col 2)) (Rel.table "nbrsNext") (Rel.table "unstable") 3)))
        (Rel.project [Expr.col 0, Expr.col 1] (Rel.table "unstable"))).eval db ↔
      ∃ i j, i ∈ S.filter (live' n nb s) ∧ (j = i ∨ j ∈ (nb i).filter fun j => live' n nb s j && s.upd j) ∧
        row = [iv i, iv (s.rep j)] := by
    intro row
    simp only [mem_union, mem_project, mem_filter, eval_join, eval_table, mem_joinRows_inner,
      mem_reprRows hU, List.mem_filter, Bool.and_eq_true]
    constructor
    · rintro (⟨x, ⟨⟨ra, hra, rb, ⟨k, _, hlk, rfl⟩, hon, rfl⟩, hh⟩, rfl⟩ | ⟨x, ⟨k, hk, hlk, rfl⟩, rfl⟩)
      · obtain ⟨i, j, hi, hli, hj, rfl⟩ := (hNb ra).mp hra
        obtain rfl : j = k := (holds_eq_cols_nat_iff rfl rfl).mp hon
        exact ⟨i, j, ⟨hi, hli⟩, Or.inr ⟨hj, hlk, (holds_col_bool rfl).symm.trans hh⟩, rfl⟩
      · exact ⟨k, k, ⟨hk, hlk⟩, Or.inl rfl, rfl⟩
    · rintro ⟨i, j, ⟨hi, hli⟩, rfl | ⟨hj, hlj, huj⟩, rfl⟩
      · exact Or.inr ⟨_, ⟨j, hi, hli, rfl⟩, rfl⟩
      · exact Or.inl ⟨_, ⟨⟨[iv i, iv j], (hNb _).mpr ⟨i, j, hi, hli, hj, rfl⟩, reprRow s j,
          ⟨j, hok.closed i hi j hj, hlj, rfl⟩, (holds_eq_cols_nat_iff rfl rfl).mpr rfl, rfl⟩,
          (holds_col_bool rfl).trans huj⟩, rfl⟩
  unfold bodyR
  rw [eval_groupBy]
  refine (groupMin_perm_of_mem _ 1 _ (hok.nodup.filter _) _ s.rep (fun i j => [iv i, iv (s.rep j)])
    (fun _ _ => rfl) (fun _ _ => rfl) hM).trans (List.Perm.of_eq ?_)
  exact List.map_congr_left fun i hi => by rw [rep', if_pos (List.mem_filter.mp hi).2]

/-- `reprNext` ↔ the representatives table of `CC.step`. -/
theorem reprNext_eval {n : Nat} {S : List Nat} {nb : Nat → List Nat} (hok : SubOK n S nb) (s : CC.St)
    (db : Db)
    (hRr : (db "r").Perm ((S.filter (live' n nb s)).map fun i => [iv i, iv (rep' n nb s i)]))
    (hU : (db "unstable").Perm ((S.filter (live' n nb s)).map (reprRow s))) :
    (bodyReprNext.eval db).Perm (canonRepr S (CC.step n nb s)) := by
  unfold bodyReprNext
  rw [eval_project, eval_join, eval_table, eval_table]
  refine (needsUpdating_perm (hok.nodup.filter _) (rep' n nb s) s.rep (reprRow s) (fun _ => rfl) (fun _ => rfl)
    true 3 hRr hU).trans (List.Perm.of_eq ?_)
  unfold canonRepr
  rw [step_live]
  apply List.map_congr_left
  intro i hi
  rw [reprRow, step_rep, step_upd, (List.mem_filter.mp hi).2, Bool.true_and]

/-- `CCSql.countOf` of `__splink__df_root_rows` = number of live nodes of `S` that need updating. -/
theorem rootRows_count {S : List Nat} (s : CC.St) (db : Db)
    (hRN : (db "reprNext").Perm (canonRepr S s)) :
    CCSql.countOf (bodyDfRootRows.eval db) = (S.filter fun i => s.live i && s.upd i).length := by
  have hlen : ((db "reprNext").filter (Expr.col 2).holds).length
      = (S.filter fun i => s.live i && s.upd i).length := by
    rw [(hRN.filter _).length_eq, canonRepr, List.filter_map, List.length_map, List.filter_filter]
    exact congrArg _ (List.filter_congr fun i _ =>
      (Bool.and_comm _ _).trans (congrArg (s.live i && ·) (holds_col_bool rfl)))
  unfold bodyDfRootRows
  rw [eval_groupBy, eval_filter, eval_table, groupRows_total]
  exact (Int.toNat_natCast _).trans hlen

/-! ## The rows of the output -/

/-- One term of `__splink__clustering_output_final`. -/
def finalRows (T : List Row) : List Row := finalTerm.eval (Db.set CCSql.emptyDb "T" T)

theorem finalRows_eq (T : List Row) :
    finalRows T = T.map fun row => [row.getD 0 .null, row.getD 1 .null] := by
  unfold finalRows finalTerm
  rw [eval_project, eval_table, set_same]
  apply List.map_congr_left
  intro row _
  simp [Expr.eval]

theorem finalRows_reprRow (s : CC.St) (L : List Nat) :
    finalRows (L.map (reprRow s)) = (L.map fun i => (i, s.rep i)).map pairRow := by
  rw [finalRows_eq, List.map_map, List.map_map]
  exact List.map_congr_left fun i _ => rfl

/-- Appending to the stable tables a table `T` that holds the rows of the nodes of `S` selected by `q` matches
appending to the model's output the rows of the nodes of `0..n-1` selected by `p`, if `p` and `q` agree on `S`. -/
theorem stables_snoc_perm {n : Nat} {S : List Nat} {nb : Nat → List Nat} (hok : SubOK n S nb) (s : CC.St)
    {st : List (List Row)} {out : List (Nat × Nat)} {T : List Row} {q p : Nat → Bool}
    (hst : (st.flatMap finalRows).Perm ((out.filter fun r => S.contains r.1).map pairRow))
    (hT : T.Perm ((S.filter q).map (reprRow s))) (hqp : ∀ a ∈ S, q a = p a) :
    ((st ++ [T]).flatMap finalRows).Perm
      (((out ++ ((List.range n).filter p).map fun i => (i, s.rep i)).filter fun r => S.contains r.1).map
        pairRow) := by
  rw [List.flatMap_append, List.filter_append, List.map_append, List.flatMap_singleton, finalRows_eq]
  refine hst.append ((hT.map _).trans ?_)
  rw [← finalRows_eq, finalRows_reprRow, List.filter_map, List.filter_filter]
  refine (((List.perm_ext_iff_of_nodup (hok.nodup.filter _) (List.nodup_range.filter _)).mpr fun a => ?_).map _).map _
  simp only [List.mem_filter, List.mem_range, Function.comp, Bool.and_eq_true, List.contains_iff_mem]
  exact ⟨fun ⟨h1, h2⟩ => ⟨hok.lt a h1, h1, (hqp a h1).symm.trans h2⟩,
    fun ⟨_, h1, h2⟩ => ⟨h1, (hqp a h1).trans h2⟩⟩

/-! ## The representation invariant -/

/-- The SQL loop state `t` represents the model state `s` on the node subset `S`. -/
structure Rep (S : List Nat) (nb : Nat → List Nat) (s : CC.St) (t : CCSql.LoopSt) : Prop where
  repr : t.repr.Perm (canonRepr S s)
  nbrs : NbrsSpec S nb s.live t.nbrs
  stables : (t.stables.flatMap finalRows).Perm ((s.out.filter fun r => S.contains r.1).map pairRow)
  outside : ∀ i, i ∉ S → s.upd i = false

/-- Everything before the loop establishes the invariant for `CC.firstIter`.  The tables of `preamble`, in order:
`__splink__df_edges_with_self_loops`, `nodes_ids_only`, `__splink__df_neighbours`, `representatives`,
`neighbours_first_iter`, `__splink__df_representatives`; it reads `nodes_in` and `edges_in`. -/
theorem init_rep (n : Nat) (S : List Nat) (edges : List (Nat × Nat × Int)) (thr : Option Int)
    (hS : S.Nodup) (hSn : ∀ i ∈ S, i < n) (hE : ∀ e ∈ edges, e.1 ∈ S ∧ e.2.1 ∈ S)
    (nodes edgeTab : List Row) (hN : nodes.Perm (nodeRowsS S))
    (hT : edgeTab.Perm (CCSql.edgeRows edges)) :
    Rep S (nbOf n thr edges) (CC.firstIter n (nbOf n thr edges))
      (CCSql.init nodes edgeTab (thr.map Val.int)) := by
  have hok := subOK_nbOf n S edges thr hS hSn hE
  obtain ⟨hR, -, -, hNb, -⟩ := runStmts_meets (preamble (thr.map Val.int))
    [fun T => ∀ row, row ∈ T ↔ ∃ a b, ((a, b) ∈ kept thr edges ∨ (a ∈ S ∧ a = b)) ∧ row = [iv a, iv b],
     fun T => T.Perm (nodeRowsS S),
     NbrsSpec S (nbOf n thr edges) fun _ => true,
     fun T => T.Perm (S.map fun i => [iv i, iv (CC.initialRep (nbOf n thr edges) i)]),
     fun T => T.Perm (S.map fun i => [iv i, iv (rep1 (nbOf n thr edges) i)]),
     fun T => T.Perm (canonRepr S (CC.firstIter n (nbOf n thr edges)))]
    [("nodes_in", fun T => T.Perm (nodeRowsS S)), ("edges_in", fun T => T.Perm (CCSql.edgeRows edges))]
    (CCSql.baseDb nodes edgeTab) (by simp [preamble])
    ⟨by simpa only [CCSql.baseDb, set_apply, String.reduceEq, ↓reduceIte] using hN,
     by simpa only [CCSql.baseDb, set_apply, String.reduceEq, ↓reduceIte] using hT, trivial⟩
    ⟨fun db ⟨hN, hE, _⟩ => edgesStmt_mem S edges thr db hN hE,
     fun db ⟨_, hN, _⟩ => nodesIdsOnly_eval S db hN,
     fun db ⟨hN, hEs, _⟩ => dfNeighbours_mem n S edges thr hSn db hN hEs,
     fun db ⟨hNb, _⟩ => representatives_eval hok db hNb,
     fun db ⟨hR, hNb, _⟩ => neighboursFirstIter_eval hok db hNb hR,
     fun db ⟨hF, hR, _⟩ => dfRepresentatives_eval hok db hF hR, trivial⟩
  unfold CCSql.init
  generalize runStmts _ _ = db at hR hNb ⊢
  exact ⟨hR, hNb, List.Perm.refl _, firstIter_upd_outside hok⟩

theorem live'_eq (n : Nat) (nb : Nat → List Nat) (s : CC.St) (i : Nat) :
    live' n nb s i = (s.live i && CC.nonStable n nb s (s.rep i)) := rfl

/-- One pass of the SQL loop body follows `CC.step`, and its count is the model's.  The tables of `body`, in order:
`non_stable_representatives`, `stable`, `unstable`, `nbrsNext`, `r`, `reprNext`, `__splink__df_root_rows`; it reads
`nbrsPrev` and `reprPrev`. -/
theorem pass_rep {n : Nat} {S : List Nat} {nb : Nat → List Nat} (hok : SubOK n S nb) {s : CC.St}
    {t : CCSql.LoopSt} (h : Rep S nb s t) :
    Rep S nb (CC.step n nb s) (CCSql.pass t).1 ∧ (CCSql.pass t).2 = CC.updCount n (CC.step n nb s) := by
  have hout := step_upd_outside hok s
  obtain ⟨hC, hRN, -, hNN, -, hSt, -⟩ := runStmts_meets body
    [fun T => ∀ row, row ∈ T ↔ ∃ g, CC.nonStable n nb s g = true ∧ row = [iv g],
     fun T => T.Perm ((S.filter fun i => s.live i && !CC.nonStable n nb s (s.rep i)).map (reprRow s)),
     fun T => T.Perm ((S.filter (live' n nb s)).map (reprRow s)),
     NbrsSpec S nb (live' n nb s),
     fun T => T.Perm ((S.filter (live' n nb s)).map fun i => [iv i, iv (rep' n nb s i)]),
     fun T => T.Perm (canonRepr S (CC.step n nb s)),
     fun T => CCSql.countOf T = (S.filter fun i => (CC.step n nb s).live i && (CC.step n nb s).upd i).length]
    [("nbrsPrev", NbrsSpec S nb s.live), ("reprPrev", fun T => T.Perm (canonRepr S s))]
    (Db.set (Db.set CCSql.emptyDb "reprPrev" t.repr) "nbrsPrev" t.nbrs) (by simp [body])
    ⟨by simpa only [set_apply, String.reduceEq, ↓reduceIte] using h.nbrs,
     by simpa only [set_apply, String.reduceEq, ↓reduceIte] using h.repr, trivial⟩
    ⟨fun db ⟨hNb, hR, _⟩ => nonStable_mem hok s db hR hNb,
     fun db ⟨hNS, _, hR, _⟩ => stable_eval s db hR hNS,
     fun db ⟨hSt, _, _, hR, _⟩ => unstable_eval s db hR hSt,
     fun db ⟨hU, _, _, hNb, _⟩ => nbrsNext_mem s db hNb hU,
     fun db ⟨hNN, hU, _⟩ => r_eval hok s db hNN hU,
     fun db ⟨hRr, _, hU, _⟩ => reprNext_eval hok s db hRr hU,
     fun db ⟨hRN, _⟩ => rootRows_count (CC.step n nb s) db hRN, trivial⟩
  unfold CCSql.pass CCSql.passDb
  generalize runStmts _ _ = db at hC hRN hNN hSt ⊢
  refine ⟨⟨hRN, ?_, ?_, hout⟩, hC.trans (updCount_eq hok.nodup hok.lt _ hout)⟩
  · rw [step_live]; exact hNN
  · rw [step_out]
    exact stables_snoc_perm hok s h.stables hSt fun a _ => by rw [live'_eq]; cases s.live a <;> rfl

/-! ## The loop, the trace and the output -/

theorem loop_rep {n : Nat} {S : List Nat} {nb : Nat → List Nat} (hok : SubOK n S nb) (fuel : Nat)
    {s : CC.St} {p : CCSql.LoopSt × Nat} (h : Rep S nb s p.1 ∧ p.2 = CC.updCount n s) :
    Rep S nb (CC.loop n nb fuel s) (CCSql.loop fuel p) := by
  induction fuel generalizing s p with
  | zero => exact h.1
  | succ f ih =>
    unfold CCSql.loop CC.loop
    rw [h.2]
    split
    · exact ih (pass_rep hok h.1)
    · exact h.1

theorem loopTrace_eq {n : Nat} {S : List Nat} {nb : Nat → List Nat} (hok : SubOK n S nb) (fuel : Nat)
    {s : CC.St} {p : CCSql.LoopSt × Nat} (h : Rep S nb s p.1 ∧ p.2 = CC.updCount n s) :
    CCSql.loopTrace fuel p = CC.loopTrace n nb fuel s := by
  induction fuel generalizing s p with
  | zero => rfl
  | succ f ih =>
    unfold CCSql.loopTrace CC.loopTrace
    rw [h.2]
    split
    · rw [(pass_rep hok h.1).2, ih (pass_rep hok h.1)]
    · rfl

theorem output_rep {n : Nat} {S : List Nat} {nb : Nat → List Nat} (hok : SubOK n S nb)
    {s : CC.St} {t : CCSql.LoopSt} (h : Rep S nb s t) :
    (CCSql.output t).Perm (((CC.output n s).filter fun r => S.contains r.1).map pairRow) :=
  stables_snoc_perm hok s h.stables h.repr fun _ _ => rfl

/-! ## The whole pipeline -/

/-- **Core refinement theorem**: on any node subset `S` (in any order), with input tables given up to row order, the
SQL pipeline returns a permutation of the model's rows for the nodes of `S`. -/
theorem cluster_core (n : Nat) (S : List Nat) (edges : List (Nat × Nat × Int)) (thr : Option Int)
    (hS : S.Nodup) (hSn : ∀ i ∈ S, i < n) (hE : ∀ e ∈ edges, e.1 ∈ S ∧ e.2.1 ∈ S)
    (nodes edgeTab : List Row) (hN : nodes.Perm (nodeRowsS S))
    (hT : edgeTab.Perm (CCSql.edgeRows edges)) :
    (CCSql.cluster nodes edgeTab (thr.map Val.int) (CC.fuel n)).Perm
      (((CC.cluster n (kept thr edges)).filter fun r => S.contains r.1).map pairRow) := by
  have hok := subOK_nbOf n S edges thr hS hSn hE
  exact output_rep hok
    (loop_rep hok (CC.fuel n) (pass_rep hok (init_rep n S edges thr hS hSn hE nodes edgeTab hN hT)))

/-- The logged per-pass counts of the SQL pipeline on a node subset are the model's on all nodes. -/
theorem trace_core (n : Nat) (S : List Nat) (edges : List (Nat × Nat × Int)) (thr : Option Int)
    (hS : S.Nodup) (hSn : ∀ i ∈ S, i < n) (hE : ∀ e ∈ edges, e.1 ∈ S ∧ e.2.1 ∈ S)
    (nodes edgeTab : List Row) (hN : nodes.Perm (nodeRowsS S))
    (hT : edgeTab.Perm (CCSql.edgeRows edges)) :
    CCSql.trace nodes edgeTab (thr.map Val.int) (CC.fuel n) = CC.trace n (kept thr edges) := by
  have hok := subOK_nbOf n S edges thr hS hSn hE
  have h1 := pass_rep hok (init_rep n S edges thr hS hSn hE nodes edgeTab hN hT)
  exact congrArg₂ List.cons h1.2 (loopTrace_eq hok (CC.fuel n) h1)

/-! ## All nodes -/

theorem ends_mem_range {n : Nat} {edges : List (Nat × Nat × Int)} (hE : ∀ e ∈ edges, e.1 < n ∧ e.2.1 < n) :
    ∀ e ∈ edges, e.1 ∈ List.range n ∧ e.2.1 ∈ List.range n :=
  fun e he => ⟨List.mem_range.mpr (hE e he).1, List.mem_range.mpr (hE e he).2⟩

theorem kept_lt {n : Nat} {thr : Option Int} {edges : List (Nat × Nat × Int)}
    (hE : ∀ e ∈ edges, e.1 < n ∧ e.2.1 < n) : ∀ e ∈ kept thr edges, e.1 < n ∧ e.2 < n :=
  thresholdEdges_lt _ thr n edges hE

theorem filter_range_cluster {n : Nat} {thr : Option Int} {edges : List (Nat × Nat × Int)}
    (hE : ∀ e ∈ edges, e.1 < n ∧ e.2.1 < n) :
    ((CC.cluster n (kept thr edges)).filter fun r => (List.range n).contains r.1)
      = CC.cluster n (kept thr edges) := by
  apply List.filter_eq_self.mpr
  rintro ⟨i, c⟩ h
  have := (mem_cluster n _ (kept_lt hE) i c h).1
  exact List.contains_iff_mem.mpr (List.mem_range.mpr this)

end SplinkVerif.Lemmas.CCSql
