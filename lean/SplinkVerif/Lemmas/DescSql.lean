import Mathlib.Data.List.Nodup
import Mathlib.Data.List.Perm.Basic
import Mathlib.Algebra.Order.Field.Rat
import Mathlib.Algebra.Order.Field.Basic
import SplinkVerif.Lemmas.Rel
import SplinkVerif.Lemmas.Descriptive
import SplinkVerif.Model.DescSql
/-!
# The regenerated SQL of the descriptive statements: term frequencies and completeness (C20)

`Generated/DescSql.lean` holds the statement `term_frequencies_for_single_column_sql` emits and the per-column
sub-select of `completeness_data`; `Model/DescSql.lean` evaluates them (`Rel.eval`) on the encoded column(s).  Here are the
pieces of the two statements, each evaluated once on the encoded table; `Properties/C20Sql.lean` puts them together.

All five descriptive statements are a `GROUP BY` over a table of encoded model rows.  `groupRows_map` says what that
returns: the model's groups (distinct keys in the order of first occurrence, each with its rows), encoded — so the SQL
and the model list the groups in the same order and the refinements are equalities of lists.  The arithmetic that
remains is that no divisor is 0 on a returned row (every group has a row) and that shares of a common total add up.
-/
namespace SplinkVerif.Lemmas.DescSql
open SplinkVerif SplinkVerif.Rel SplinkVerif.Lemmas.Rel
open SplinkVerif.DescSql (encCell)
open SplinkVerif.Descriptive (countNonNull nonNull TfRow ComplRow)

/-! ## Shares of a total -/

theorem sum_div_const {α : Type} (f : α → Nat) (t : Rat) (l : List α) :
    (l.map fun a => (f a : Rat) / t).sum = (((l.map f).sum : Nat) : Rat) / t := by
  induction l with
  | nil => simp
  | cons a l ih => rw [List.map_cons, List.sum_cons, ih, List.map_cons, List.sum_cons, Nat.cast_add, add_div]

theorem shares_of_total {α : Type} (num den : α → Nat) (d : Nat) (l : List α) (hden : ∀ r ∈ l, den r = d)
    (hsum : (l.map num).sum = d) (hd : 0 < d) : (l.map fun r => (num r : Rat) / (den r : Rat)).sum = 1 := by
  rw [List.map_congr_left (g := fun r => (num r : Rat) / (d : Rat)) fun r hr => by rw [hden r hr], sum_div_const, hsum]
  exact div_self (Rat.natCast_pos.2 hd).ne'

theorem shares_sum {α K : Type} [BEq K] [LawfulBEq K] (l : List α) (key : α → K) (hne : l ≠ []) :
    (((l.map key).eraseDups).map fun k => ((l.filter fun a => key a == k).length : Rat) / (l.length : Rat)).sum = 1 :=
  shares_of_total (fun k => (l.filter fun a => key a == k).length) (fun _ => l.length) l.length _ (fun _ _ => rfl)
    (Lemmas.Lists.length_groups l key) (List.length_pos_iff.2 hne)

theorem share_pos_le {n d : Nat} (hn : 0 < n) (hle : n ≤ d) : 0 < (n : Rat) / (d : Rat) ∧ (n : Rat) / (d : Rat) ≤ 1 := by
  have hd : (0 : Rat) < (d : Rat) := Rat.natCast_pos.2 (Nat.lt_of_lt_of_le hn hle)
  exact ⟨div_pos (Rat.natCast_pos.2 hn) hd, (div_le_one hd).mpr (Rat.natCast_le_natCast.2 hle)⟩

theorem share_compl {a b t : Nat} (h : a + b = t) (ht : 0 < t) :
    (b : Rat) / t = 1 - (a : Rat) / t ∧ 0 ≤ (b : Rat) / t ∧ (b : Rat) / t ≤ 1 := by
  have hpos : (0 : Rat) < t := Rat.natCast_pos.2 ht
  have hle : (b : Rat) ≤ t := Rat.natCast_le_natCast.2 (Nat.le.intro (Nat.add_comm a b ▸ h))
  have hsum : (b : Rat) + a = t := by rw [← Rat.natCast_add, Nat.add_comm, h]
  refine ⟨?_, Rat.div_nonneg Rat.natCast_nonneg hpos.le, (div_le_one hpos).2 hle⟩
  rw [eq_sub_iff_add_eq, ← add_div, hsum, div_self hpos.ne']

/-! ## Encodings -/

def encKey (k : Nat) : Row := [Val.int (k : Int)]

/-- A row of `cws_in`: (source dataset, cell). -/
def encPair (p : Nat × Option Nat) : Row := [Val.int (p.1 : Int), encCell p.2]

/-- A row of the TF table in the SQL's column order: (value, tf). -/
def encTf (r : TfRow) : Row := [Val.int (r.value : Int), Val.rat ((r.num : Rat) / (r.den : Rat))]

/-- A row of the completeness sub-select in the SQL's column order:
(source_dataset, column_name, total_null_rows, total_rows_inc_nulls, completeness). -/
def encCompl (r : ComplRow) : Row :=
  [Val.int (r.sd : Int), Val.str "v", Val.int (r.nullRows : Int), Val.int (r.totalRows : Int),
   Val.rat ((r.nonNullRows : Rat) / (r.totalRows : Rat))]

theorem encKey_inj (a b : Nat) (h : encKey a = encKey b) : a = b := by
  simpa [encKey] using h

theorem encCell_ne_null (v : Option Nat) : (encCell v != Val.null) = v.isSome := by
  cases v <;> rfl

/-- `count(e)` over encoded rows on which `e` reads an encoded cell: the number of non-NULL cells. -/
theorem count_encCell {α : Type} (e : Expr) (enc : α → Row) (cell : α → Option Nat)
    (h : ∀ a, e.eval (enc a) = encCell (cell a)) (G : List α) :
    (Agg.count e).eval (G.map enc) = Val.int (countNonNull (G.map cell) : Nat) := by
  rw [Agg.eval, countNonNull, List.filter_map, List.length_map, List.filter_map, List.length_map]
  congr 3
  apply List.filter_congr
  intro a _
  rw [Function.comp, Function.comp, h, encCell_ne_null]

/-! ## The pieces of the TF statement -/

/-- `where v is not null` keeps the non-NULL cells, in order. -/
theorem filter_notNull (col : List (Option Nat)) :
    (col.map fun v => [encCell v]).filter (Expr.not (Expr.isNull (Expr.col 0))).holds
      = (nonNull col).map encKey := by
  induction col with
  | nil => rfl
  | cons v col ih =>
    -- the predicate evaluates on the head cell: a NULL is dropped on both sides, a value kept
    cases v with
    | none => exact ih
    | some k => exact congrArg (encKey k :: ·) ih

/-- `select count(v) from t_in`: one row holding the number of non-NULL cells. -/
theorem count_eval (col : List (Option Nat)) :
    groupRows [] [Agg.count (Expr.col 0)] (col.map fun v => [encCell v])
      = [[Val.int (countNonNull col : Int)]] := by
  have h := count_encCell (Expr.col 0) (fun v : Option Nat => [encCell v]) id (fun _ => rfl) col
  rw [List.map_id] at h
  exact congrArg (fun v => [[v]]) h

theorem countNonNull_pos_iff (col : List (Option Nat)) : 0 < countNonNull col ↔ ∃ k : Nat, some k ∈ col := by
  rw [Lemmas.Desc.countNonNull_eq, List.length_pos_iff_exists_mem]
  exact exists_congr fun k => Lemmas.Desc.mem_nonNull col k

/-- The TF expression on a joined row: `cast(count(*) as float8) / total` with a positive total. -/
theorem tf_expr_eval (k c t : Nat) (ht : 0 < t) :
    [Expr.col 0, Expr.arith Arith.div (Expr.toRat (Expr.col 1)) (Expr.col 2)].map
        (·.eval [Val.int (k : Int), Val.int (c : Int), Val.int (t : Int)])
      = [Val.int (k : Int), Val.rat ((c : Rat) / (t : Rat))] := by
  simp only [List.map_cons, List.map_nil, Expr.eval, List.getD_cons_zero, List.getD_cons_succ]
  rw [div_eval (x := (c : Rat)) (y := (t : Rat)) (by rw [Val.toRat?, Int.cast_natCast])
    (by rw [Val.toRat?, Int.cast_natCast]) (Rat.natCast_pos.2 ht).ne']

/-! ## The pieces of the completeness sub-select -/

/-- `select sd, count(*), count(v) from cws_in group by sd`. -/
theorem complGroup_eval (rows : List (Nat × Option Nat)) :
    groupRows [Expr.col 0] [Agg.countStar, Agg.count (Expr.col 1)] (rows.map encPair)
      = (rows.map (·.1)).eraseDups.map fun (d : Nat) =>
          [Val.int (d : Int), Val.int ((rows.filter fun r => r.1 == d).length : Int),
           Val.int ((rows.filter fun r => r.1 == d && r.2.isSome).length : Int)] := by
  rw [groupRows_map [Expr.col 0] (List.cons_ne_nil _ _) _ encPair (·.1) encKey encKey_inj (fun _ => rfl)]
  apply List.map_congr_left
  intro d _
  rw [List.map_cons, List.map_cons, List.map_nil, count_encCell (Expr.col 1) encPair (·.2) (fun _ => rfl), Agg.eval,
    List.length_map, Lemmas.Desc.countNonNull_group]
  rfl

/-- The five output expressions on a grouped row with `count(v) ≤ count(*)` and `count(*) > 0`. -/
theorem compl_expr_eval (d n c : Nat) (hc : c ≤ n) (hn : 0 < n) :
    [Expr.col 0, Expr.lit (Val.str "v"), Expr.arith Arith.sub (Expr.col 1) (Expr.col 2), Expr.col 1,
      Expr.arith Arith.div (Expr.arith Arith.mul (Expr.col 2) (Expr.lit (Val.rat ((1 : Rat) / 1))))
        (Expr.col 1)].map (·.eval [Val.int (d : Int), Val.int (n : Int), Val.int (c : Int)])
      = [Val.int (d : Int), Val.str "v", Val.int ((n - c : Nat) : Int), Val.int (n : Int),
         Val.rat ((c : Rat) / (n : Rat))] := by
  -- the model's truncated subtraction is the SQL's integer subtraction because `count(v) ≤ count(*)`
  have hsub : Arith.sub.eval (.int n) (.int c) = .int ((n - c : Nat) : Int) := by
    rw [Int.ofNat_sub hc]
    rfl
  have hmul : Arith.mul.eval (.int c) (.rat ((1 : Rat) / 1)) = .rat (c : Rat) := by
    show Val.rat (((c : Int) : Rat) * (1 / 1)) = _
    rw [div_one, mul_one, Int.cast_natCast]
  simp only [List.map_cons, List.map_nil, Expr.eval, List.getD_cons_zero, List.getD_cons_succ, hsub, hmul]
  rw [div_eval (x := (c : Rat)) (y := (n : Rat)) rfl (by rw [Val.toRat?, Int.cast_natCast]) (Rat.natCast_pos.2 hn).ne']

end SplinkVerif.Lemmas.DescSql
