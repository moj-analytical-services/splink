import SplinkVerif.Model.Blocking
import SplinkVerif.Lemmas.Base
import SplinkVerif.Lemmas.Lists
/-!
# Lemmas for C01 (blocking)

`mem_rulePairs` reads `rulePairs` once: each kind of rule joins over its own candidate pairs (`Cand`), which are the
admissible pairs (`Adm`) when salting is well formed and the exploding self-join agrees with the split join (`ExplOK`).
`mem_blockFrom` is the one induction over the rule list: a row is emitted iff the pair is admissible, not excluded
by the rules already processed, and its `match_key` is the first remaining rule that is TRUE on it (`First`, an
instance of `Lists.FirstIdx`, which the SQL side shares).  Everything about membership in `block` follows from it;
uniqueness (`nodup_blockFrom`) needs no hypothesis at all.
-/
namespace SplinkVerif.Lemmas.Blk
open SplinkVerif SplinkVerif.Blocking

/-- Composite ids identify records. -/
def WFKeys (t : Table) : Prop := ∀ i j, i < t.m → j < t.m → t.key i = t.key j → i = j

/-- Salting of one rule is well formed: at least one partition and every record falls in one. -/
def SaltOK1 (t : Table) (rule : Rule) : Prop :=
  ∀ n, rule.kind = .salted n → 0 < n ∧ ∀ i, i < t.m → t.part i n < n

/-- `SaltOK1` of every rule, written out. -/
def SaltOK (t : Table) (rules : List Rule) : Prop :=
  ∀ r ∈ rules, ∀ n, r.kind = .salted n → 0 < n ∧ ∀ i, i < t.m → t.part i n < n

theorem saltOK_head {t : Table} {rule : Rule} {rest : List Rule} (h : SaltOK t (rule :: rest)) :
    SaltOK1 t rule := h rule List.mem_cons_self

theorem saltOK_tail {t : Table} {rule : Rule} {rest : List Rule} (h : SaltOK t (rule :: rest)) :
    SaltOK t rest := fun q hq => h q (List.mem_cons_of_mem _ hq)

/-- Rule `i` evaluates to TRUE on the ordered pair `(l, r)`. -/
def holds (rules : List Rule) (i l r : Nat) : Prop :=
  ∃ rule, rules[i]? = some rule ∧ B3.isTrue (rule.eval l r) = true

/-- The link types that self-join the concatenated table. -/
def SelfJoin (lt : LinkType) : Prop := lt ≠ .twoDatasetLinkOnly

/-! ## `holds`, and the first rule that holds -/

theorem holds_nil (i l r : Nat) : ¬ holds [] i l r := fun ⟨_, h, _⟩ => nomatch h

theorem holds_cons_zero (q : Rule) (qs : List Rule) (l r : Nat) :
    holds (q :: qs) 0 l r ↔ B3.isTrue (q.eval l r) = true :=
  ⟨fun ⟨_, h, ht⟩ => Option.some.inj h ▸ ht, fun h => ⟨q, rfl, h⟩⟩

theorem holds_cons_succ (q : Rule) (qs : List Rule) (i l r : Nat) :
    holds (q :: qs) (i + 1) l r ↔ holds qs i l r := Iff.rfl

theorem holds_single (q : Rule) (i l r : Nat) :
    holds [q] i l r ↔ i = 0 ∧ B3.isTrue (q.eval l r) = true := by
  cases i with
  | zero =>
    rw [holds_cons_zero]
    exact (and_iff_right rfl).symm
  | succ k =>
    rw [holds_cons_succ]
    exact ⟨fun h => absurd h (holds_nil k l r), fun h => absurd h.1 (Nat.succ_ne_zero k)⟩

/-- `holds` sees the rules only through their outcomes on the pair. -/
theorem holds_iff_outcomes (rules : List Rule) (i l r : Nat) :
    holds rules i l r ↔ ∃ b, (rules.map (·.eval l r))[i]? = some b ∧ B3.isTrue b = true := by
  simp only [holds, List.getElem?_map, Option.map_eq_some_iff]
  exact ⟨fun ⟨q, h, ht⟩ => ⟨_, ⟨q, h, rfl⟩, ht⟩, fun ⟨_, ⟨q, h, e⟩, ht⟩ => ⟨q, h, e ▸ ht⟩⟩

/-- Rule `i` is TRUE on `(l, r)` and no earlier rule is. -/
def First (rules : List Rule) (i l r : Nat) : Prop :=
  Lists.FirstIdx (fun q : Rule => B3.isTrue (q.eval l r)) rules i

theorem first_iff_holds (rules : List Rule) (i l r : Nat) :
    First rules i l r ↔ holds rules i l r ∧ ∀ j, j < i → ¬ holds rules j l r :=
  and_congr_right fun _ => forall_congr' fun _ => imp_congr_right fun _ =>
    ⟨fun h ⟨q, hq, ht⟩ => Bool.noConfusion ((h q hq).symm.trans ht),
      fun h q hq => Bool.eq_false_iff.2 fun ht => h ⟨q, hq, ht⟩⟩

theorem first_cons_zero (q : Rule) (qs : List Rule) (l r : Nat) :
    First (q :: qs) 0 l r ↔ B3.isTrue (q.eval l r) = true := Lists.firstIdx_zero _ q qs

theorem first_cons_succ (q : Rule) (qs : List Rule) (i l r : Nat) :
    First (q :: qs) (i + 1) l r ↔ B3.isTrue (q.eval l r) = false ∧ First qs i l r := Lists.firstIdx_succ _ q qs i

/-! ## `joinFilter` -/

theorem mem_joinFilter (ls rs : List Nat) (p : Nat → Nat → Bool) (l r : Nat) :
    (l, r) ∈ joinFilter ls rs p ↔ l ∈ ls ∧ r ∈ rs ∧ p l r = true := by
  unfold joinFilter
  simp only [List.mem_flatMap, List.mem_map, List.mem_filter, Prod.mk.injEq]
  constructor
  · rintro ⟨a, ha, b, ⟨hb, hp⟩, rfl, rfl⟩
    exact ⟨ha, hb, hp⟩
  · rintro ⟨hl, hr, hp⟩
    exact ⟨l, hl, r, ⟨hr, hp⟩, rfl, rfl⟩

theorem nodup_joinFilter (ls rs : List Nat) (p : Nat → Nat → Bool)
    (hl : ls.Nodup) (hr : rs.Nodup) : (joinFilter ls rs p).Nodup :=
  Lists.nodup_filterJoin ls rs p Prod.mk hl hr fun _ _ _ _ _ _ _ _ e => Prod.mk.inj e

/-! ## The join inputs -/

theorem leftTable_sublist (lt : LinkType) (t : Table) : (leftTable lt t).Sublist (List.range t.m) := by
  cases lt <;> first | exact List.Sublist.refl _ | exact List.filter_sublist

theorem rightTable_sublist (lt : LinkType) (t : Table) : (rightTable lt t).Sublist (List.range t.m) := by
  cases lt <;> first | exact List.Sublist.refl _ | exact List.filter_sublist

theorem nodup_join (lt : LinkType) (t : Table) (p : Nat → Nat → Bool) :
    (joinFilter (leftTable lt t) (rightTable lt t) p).Nodup :=
  nodup_joinFilter _ _ p (List.nodup_range.sublist (leftTable_sublist lt t))
    (List.nodup_range.sublist (rightTable_sublist lt t))

/-- Admissible ordered pairs: in the join inputs and passing the link-type `WHERE`. -/
def Adm (lt : LinkType) (t : Table) (l r : Nat) : Prop :=
  l ∈ leftTable lt t ∧ r ∈ rightTable lt t ∧ whereCond lt t l r = true

theorem adm_sound {lt : LinkType} {t : Table} {l r : Nat} (h : Adm lt t l r) :
    l < t.m ∧ r < t.m ∧ whereCond lt t l r = true :=
  ⟨List.mem_range.1 ((leftTable_sublist lt t).subset h.1), List.mem_range.1 ((rightTable_sublist lt t).subset h.2.1), h.2.2⟩

/-- The pairs that pass the self-join of the unnested table, which exploding rules use in place of the split join. -/
def SelfAdm (lt : LinkType) (t : Table) (l r : Nat) : Prop :=
  l < t.m ∧ r < t.m ∧ whereCond lt t l r = true ∧
    (lt != .twoDatasetLinkOnly || decide (t.sd l < t.sd r)) = true

/-- The self-join used by exploding rules accepts the same pairs as the split join. -/
def ExplOK (lt : LinkType) (t : Table) : Prop := ∀ l r, SelfAdm lt t l r ↔ Adm lt t l r

theorem leftTable_selfJoin {lt : LinkType} (hlt : SelfJoin lt) (t : Table) : leftTable lt t = List.range t.m := by
  cases lt <;> first | rfl | exact absurd rfl hlt

theorem rightTable_selfJoin {lt : LinkType} (hlt : SelfJoin lt) (t : Table) : rightTable lt t = List.range t.m := by
  cases lt <;> first | rfl | exact absurd rfl hlt

theorem adm_selfJoin {lt : LinkType} (hlt : SelfJoin lt) (t : Table) (l r : Nat) :
    Adm lt t l r ↔ l < t.m ∧ r < t.m ∧ whereCond lt t l r = true := by
  rw [Adm, leftTable_selfJoin hlt, rightTable_selfJoin hlt, List.mem_range, List.mem_range]

theorem explOK_selfJoin {lt : LinkType} (hlt : SelfJoin lt) (t : Table) : ExplOK lt t := by
  intro l r
  rw [adm_selfJoin hlt]
  exact ⟨fun ⟨a, b, c, _⟩ => ⟨a, b, c⟩, fun ⟨a, b, c⟩ => ⟨a, b, c, by rw [bne_iff_ne.2 hlt]; rfl⟩⟩

theorem whereCond_iff {lt : LinkType} (hlt : SelfJoin lt) (t : Table) (l r : Nat) :
    whereCond lt t l r = true ↔ t.key l < t.key r ∧ (lt = .linkOnly → t.sd l ≠ t.sd r) := by
  cases lt <;> first | exact absurd rfl hlt | simp [whereCond]

theorem whereCond_total {lt : LinkType} (hlt : SelfJoin lt) {t : Table} (hwf : WFKeys t) {l r : Nat}
    (hl : l < t.m) (hr : r < t.m) (hlr : l ≠ r) (hsd : lt = .linkOnly → t.sd l ≠ t.sd r) :
    whereCond lt t l r = true ∨ whereCond lt t r l = true :=
  (Nat.lt_or_gt_of_ne fun h => hlr (hwf l r hl hr h)).imp
    (fun h => (whereCond_iff hlt t l r).2 ⟨h, hsd⟩)
    (fun h => (whereCond_iff hlt t r l).2 ⟨h, fun e h' => hsd e h'.symm⟩)

/-! ## Pairs of one rule -/

/-- The pairs the join of one rule ranges over, before the rule itself and the exclusion of its predecessors are
applied: the split join for a plain rule, the same within the partition of `l` for a salted one, the self-join of the
unnested table for an exploding one. -/
def Cand (lt : LinkType) (t : Table) (rule : Rule) (l r : Nat) : Prop :=
  match rule.kind with
  | .plain => Adm lt t l r
  | .salted n => Adm lt t l r ∧ t.part l n < n
  | .exploding => SelfAdm lt t l r

theorem cand_sound {lt : LinkType} {t : Table} {rule : Rule} {l r : Nat} (h : Cand lt t rule l r) :
    l < t.m ∧ r < t.m ∧ whereCond lt t l r = true := by
  unfold Cand at h
  split at h
  · exact adm_sound h
  · exact adm_sound h.1
  · exact ⟨h.1, h.2.1, h.2.2.1⟩

theorem cand_iff_adm {lt : LinkType} {t : Table} {rule : Rule} (hx : ExplOK lt t) (hs : SaltOK1 t rule)
    (l r : Nat) : Cand lt t rule l r ↔ Adm lt t l r := by
  unfold Cand
  cases hk : rule.kind with
  | plain => exact Iff.rfl
  | salted n => exact ⟨And.left, fun h => ⟨h, (hs n hk).2 l (adm_sound h).1⟩⟩
  | exploding => exact hx l r

theorem mem_rulePairs (lt : LinkType) (t : Table) (pre : List Done) (rule : Rule) (l r : Nat) :
    (l, r) ∈ rulePairs lt t pre rule ↔
      Cand lt t rule l r ∧ B3.isTrue (rule.eval l r) = true ∧ excluded pre l r = false := by
  unfold rulePairs Cand
  cases rule.kind with
  | plain =>
    simp only [mem_joinFilter, Adm, Bool.and_eq_true, Bool.not_eq_true']
    constructor
    · rintro ⟨h1, h2, ⟨h3, h4⟩, h5⟩
      exact ⟨⟨h1, h2, h4⟩, h3, h5⟩
    · rintro ⟨⟨h1, h2, h4⟩, h3, h5⟩
      exact ⟨h1, h2, ⟨h3, h4⟩, h5⟩
  | salted n =>
    simp only [List.mem_flatMap, List.mem_range, mem_joinFilter, Adm, Bool.and_eq_true,
      Bool.not_eq_true', B3.isTrue_and3, B3.isTrue_some, beq_iff_eq]
    constructor
    · rintro ⟨k, hk, h1, h2, ⟨⟨h3, rfl⟩, h4⟩, h5⟩
      exact ⟨⟨⟨h1, h2, h4⟩, hk⟩, h3, h5⟩
    · rintro ⟨⟨⟨h1, h2, h4⟩, hk⟩, h3, h5⟩
      exact ⟨t.part l n, hk, h1, h2, ⟨⟨h3, rfl⟩, h4⟩, h5⟩
  | exploding =>
    simp only [List.mem_eraseDups, mem_joinFilter, List.mem_range, Bool.and_eq_true,
      Bool.not_eq_true']
    constructor
    · rintro ⟨h1, h2, ⟨⟨h3, h4⟩, h6⟩, h5⟩
      exact ⟨⟨h1, h2, h4, h6⟩, h3, h5⟩
    · rintro ⟨⟨h1, h2, h4, h6⟩, h3, h5⟩
      exact ⟨h1, h2, ⟨⟨h3, h4⟩, h6⟩, h5⟩

theorem mem_rulePairs_adm (lt : LinkType) (t : Table) (pre : List Done) (rule : Rule)
    (hx : ExplOK lt t) (hs : SaltOK1 t rule) (l r : Nat) :
    (l, r) ∈ rulePairs lt t pre rule ↔
      Adm lt t l r ∧ B3.isTrue (rule.eval l r) = true ∧ excluded pre l r = false := by
  rw [mem_rulePairs, cand_iff_adm hx hs]

theorem nodup_rulePairs (lt : LinkType) (t : Table) (pre : List Done) (rule : Rule) :
    (rulePairs lt t pre rule).Nodup := by
  unfold rulePairs
  cases hk : rule.kind with
  | plain => exact nodup_join lt t _
  | salted n =>
    simp only []
    rw [List.nodup_iff_pairwise_ne, List.pairwise_flatMap]
    constructor
    · intro k _
      exact nodup_join lt t _
    · refine (List.nodup_range (n := n)).imp ?_
      intro a b hab x hx y hy hxy
      subst hxy
      obtain ⟨x1, x2⟩ := x
      rw [mem_joinFilter] at hx hy
      have hx := hx.2.2
      have hy := hy.2.2
      simp only [Bool.and_eq_true, B3.isTrue_and3, B3.isTrue_some, beq_iff_eq] at hx hy
      exact hab (hx.1.1.2.symm.trans hy.1.1.2)
  | exploding => exact Lists.nodup_eraseDups _

/-! ## Exclusion of preceding rules -/

theorem excludedBy_eq (d : Done) (l r : Nat) :
    excludedBy d l r = match d.1.kind with
      | .exploding => decide ((l, r) ∈ d.2)
      | _ => B3.isTrue (d.1.eval l r) := by
  unfold excludedBy
  cases d.1.kind <;> simp [B3.coalesceF_eq_isTrue]

theorem excluded_snoc (pre : List Done) (d : Done) (l r : Nat) :
    excluded (pre ++ [d]) l r = (excluded pre l r || excludedBy d l r) := by
  simp [excluded]

/-- On admissible pairs, excluding the pairs of one more rule is excluding the pairs on which it is TRUE
(for an exploding rule: its id-pair table holds exactly the TRUE pairs that were not excluded already). -/
theorem excluded_snoc_rulePairs (lt : LinkType) (t : Table) (pre : List Done) (rule : Rule)
    (hx : ExplOK lt t) (hs : SaltOK1 t rule) (l r : Nat) (ha : Adm lt t l r) :
    excluded (pre ++ [(rule, rulePairs lt t pre rule)]) l r
      = (excluded pre l r || B3.isTrue (rule.eval l r)) := by
  rw [excluded_snoc, excludedBy_eq]
  cases hk : rule.kind with
  | plain => rfl
  | salted n => rfl
  | exploding =>
    cases he : excluded pre l r with
    | true => rfl
    | false =>
      simp only [Bool.false_or]
      rw [Bool.eq_iff_iff, decide_eq_true_iff, mem_rulePairs_adm lt t pre rule hx hs]
      exact ⟨fun h => h.2.1, fun h => ⟨ha, h, he⟩⟩

/-! ## Membership in `blockFrom` -/

theorem mem_tag (ps : List (Nat × Nat)) (n i l r : Nat) :
    ((i, l, r) : Row) ∈ ps.map (fun p => ((n, p.1, p.2) : Row)) ↔ i = n ∧ (l, r) ∈ ps := by
  simp only [List.mem_map, Prod.mk.injEq]
  constructor
  · rintro ⟨⟨a, b⟩, hp, rfl, rfl, rfl⟩
    exact ⟨rfl, hp⟩
  · rintro ⟨rfl, hp⟩
    exact ⟨(l, r), hp, rfl, rfl, rfl⟩

theorem mem_blockFrom (lt : LinkType) (t : Table) (hx : ExplOK lt t) :
    ∀ (rest : List Rule) (pre : List Done), SaltOK t rest → ∀ i l r,
      ((i, l, r) ∈ blockFrom lt t pre rest ↔
        Adm lt t l r ∧ excluded pre l r = false ∧ ∃ k, i = pre.length + k ∧ First rest k l r) := by
  intro rest
  induction rest with
  | nil => exact fun pre _ i l r => ⟨fun h => (nomatch h), fun ⟨_, _, _, _, h⟩ => absurd h (Lists.not_firstIdx_nil _ _)⟩
  | cons rule rest ih =>
    intro pre hsalt i l r
    have hs := saltOK_head hsalt
    rw [blockFrom, List.mem_append, mem_tag, mem_rulePairs_adm lt t pre rule hx hs, ih _ (saltOK_tail hsalt),
      List.length_append, List.length_singleton]
    constructor
    · rintro (⟨rfl, ha, ht, he⟩ | ⟨ha, he, k, rfl, hk⟩)
      · exact ⟨ha, he, 0, rfl, (first_cons_zero ..).2 ht⟩
      · rw [excluded_snoc_rulePairs lt t pre rule hx hs l r ha, Bool.or_eq_false_iff] at he
        exact ⟨ha, he.1, k + 1, by omega, (first_cons_succ ..).2 ⟨he.2, hk⟩⟩
    · rintro ⟨ha, he, k, rfl, hk⟩
      cases k with
      | zero => exact Or.inl ⟨rfl, ha, (first_cons_zero ..).1 hk, he⟩
      | succ k =>
        have hk := (first_cons_succ ..).1 hk
        refine Or.inr ⟨ha, ?_, k, by omega, hk.2⟩
        rw [excluded_snoc_rulePairs lt t pre rule hx hs l r ha, he, hk.1]
        rfl

theorem block_of_ne_nil (lt : LinkType) (t : Table) {rules : List Rule} (hne : rules ≠ []) :
    block lt t rules = blockFrom lt t [] rules := by
  cases rules with
  | nil => exact absurd rfl hne
  | cons _ _ => rfl

theorem mem_block_adm (lt : LinkType) (t : Table) (rules : List Rule) (hx : ExplOK lt t)
    (hne : rules ≠ []) (hsalt : SaltOK t rules) (i l r : Nat) :
    (i, l, r) ∈ block lt t rules ↔ Adm lt t l r ∧ First rules i l r := by
  rw [block_of_ne_nil lt t hne, mem_blockFrom lt t hx rules [] hsalt]
  exact ⟨fun ⟨ha, _, k, hk, hf⟩ => ⟨ha, by rw [hk, List.length_nil, Nat.zero_add]; exact hf⟩,
    fun ⟨ha, hf⟩ => ⟨ha, rfl, i, (Nat.zero_add i).symm, hf⟩⟩

/-! ## Soundness and uniqueness without hypotheses -/

theorem excludedBy_self (lt : LinkType) (t : Table) (pre : List Done) (rule : Rule) (l r : Nat)
    (h : (l, r) ∈ rulePairs lt t pre rule) :
    excludedBy (rule, rulePairs lt t pre rule) l r = true := by
  rw [excludedBy_eq]
  cases hk : rule.kind with
  | plain => exact ((mem_rulePairs ..).1 h).2.1
  | salted n => exact ((mem_rulePairs ..).1 h).2.1
  | exploding => exact decide_eq_true h

theorem blockFrom_sound (lt : LinkType) (t : Table) :
    ∀ (rest : List Rule) (pre : List Done) (i l r : Nat), (i, l, r) ∈ blockFrom lt t pre rest →
      l < t.m ∧ r < t.m ∧ whereCond lt t l r = true ∧ excluded pre l r = false := by
  intro rest
  induction rest with
  | nil => exact fun pre i l r h => nomatch h
  | cons rule rest ih =>
    intro pre i l r h
    rw [blockFrom, List.mem_append, mem_tag] at h
    rcases h with ⟨_, h⟩ | h
    · obtain ⟨hc, _, he⟩ := (mem_rulePairs ..).1 h
      exact ⟨(cand_sound hc).1, (cand_sound hc).2.1, (cand_sound hc).2.2, he⟩
    · have := ih _ i l r h
      rw [excluded_snoc, Bool.or_eq_false_iff] at this
      exact ⟨this.1, this.2.1, this.2.2.1, this.2.2.2.1⟩

theorem nodup_blockFrom (lt : LinkType) (t : Table) :
    ∀ (rest : List Rule) (pre : List Done),
      ((blockFrom lt t pre rest).map fun row => (row.2.1, row.2.2)).Nodup := by
  intro rest
  induction rest with
  | nil => exact fun pre => List.nodup_nil
  | cons rule rest ih =>
    intro pre
    rw [blockFrom, List.map_append, List.map_map]
    have hid : ((fun row : Row => (row.2.1, row.2.2)) ∘ fun p : Nat × Nat => (pre.length, p.1, p.2))
        = id := rfl
    rw [hid, List.map_id, List.nodup_append]
    refine ⟨nodup_rulePairs lt t pre rule, ih _, ?_⟩
    rintro ⟨l, r⟩ ha b hb rfl
    obtain ⟨⟨i, l', r'⟩, hrow, heq⟩ := List.mem_map.1 hb
    cases heq
    have h4 := (blockFrom_sound lt t rest _ i l' r' hrow).2.2.2
    rw [excluded_snoc, excludedBy_self lt t pre rule l' r' ha, Bool.or_true] at h4
    cases h4

theorem nodup_block_pairs (lt : LinkType) (t : Table) (rules : List Rule) :
    ((block lt t rules).map fun row => (row.2.1, row.2.2)).Nodup :=
  nodup_blockFrom lt t _ []

theorem block_nodup_rows (lt : LinkType) (t : Table) (rules : List Rule) :
    (block lt t rules).Nodup :=
  List.Pairwise.of_map _ (fun a b h hab => h (by rw [hab])) (nodup_block_pairs lt t rules)

theorem mem_block_sound {lt : LinkType} {t : Table} {rules : List Rule} {i l r : Nat}
    (h : (i, l, r) ∈ block lt t rules) : l < t.m ∧ r < t.m ∧ whereCond lt t l r = true :=
  have h := blockFrom_sound lt t _ _ i l r h
  ⟨h.1, h.2.1, h.2.2.1⟩

/-! ## The self-joining link types -/

theorem mem_block (lt : LinkType) (t : Table) (rules : List Rule)
    (hlt : SelfJoin lt) (hne : rules ≠ []) (hsalt : SaltOK t rules) (i l r : Nat) :
    (i, l, r) ∈ block lt t rules ↔
      l < t.m ∧ r < t.m ∧ whereCond lt t l r = true ∧
      holds rules i l r ∧ ∀ j, j < i → ¬ holds rules j l r := by
  rw [mem_block_adm lt t rules (explOK_selfJoin hlt t) hne hsalt, adm_selfJoin hlt, first_iff_holds]
  simp only [and_assoc]

theorem first_trueRule (i l r : Nat) : First [trueRule] i l r ↔ i = 0 := Lists.firstIdx_singleton rfl i

theorem saltOK_trueRule (t : Table) : SaltOK t [trueRule] := by
  intro q hq n hn
  cases List.mem_singleton.1 hq
  cases hn

theorem mem_block_nil (lt : LinkType) (t : Table) (hlt : SelfJoin lt) (i l r : Nat) :
    (i, l, r) ∈ block lt t [] ↔ i = 0 ∧ l < t.m ∧ r < t.m ∧ whereCond lt t l r = true := by
  have : block lt t [] = block lt t [trueRule] := rfl
  rw [this, mem_block_adm lt t _ (explOK_selfJoin hlt t) (List.cons_ne_nil _ _) (saltOK_trueRule t),
    adm_selfJoin hlt, first_trueRule, and_comm]

theorem exists_mem_block (lt : LinkType) (t : Table) (rules : List Rule)
    (hlt : SelfJoin lt) (hne : rules ≠ []) (hsalt : SaltOK t rules) (l r : Nat) :
    (∃ i, (i, l, r) ∈ block lt t rules) ↔
      l < t.m ∧ r < t.m ∧ whereCond lt t l r = true ∧ ∃ i, holds rules i l r := by
  constructor
  · rintro ⟨i, h⟩
    obtain ⟨h1, h2, h3, h4, _⟩ := (mem_block lt t rules hlt hne hsalt i l r).mp h
    exact ⟨h1, h2, h3, i, h4⟩
  · rintro ⟨h1, h2, h3, i, q, hq, ht⟩
    obtain ⟨k, hk⟩ := Lists.exists_firstIdx (fun q : Rule => B3.isTrue (q.eval l r)) rules i q hq ht
    exact ⟨k, (mem_block lt t rules hlt hne hsalt k l r).mpr ⟨h1, h2, h3, (first_iff_holds rules k l r).1 hk⟩⟩

/-! ## What `block` depends on -/

/-- The rows of `block` depend on the table and the rules only through the number of records, the link-type
clause and the outcomes of the rules on the pair: whatever preserves these (another listing of the records,
other salts, other rule kinds) preserves membership. -/
theorem mem_block_congr {lt : LinkType} (hlt : SelfJoin lt) {t t' : Table} {rules rules' : List Rule}
    (hs : SaltOK t rules) (hs' : SaltOK t' rules') {l r l' r' : Nat}
    (hl : l' < t'.m ↔ l < t.m) (hr : r' < t'.m ↔ r < t.m)
    (hw : whereCond lt t' l' r' = whereCond lt t l r)
    (hev : rules'.map (·.eval l' r') = rules.map (·.eval l r)) (i : Nat) :
    (i, l', r') ∈ block lt t' rules' ↔ (i, l, r) ∈ block lt t rules := by
  by_cases hne : rules = []
  · subst hne
    cases List.map_eq_nil_iff.1 hev
    rw [mem_block_nil lt t' hlt, mem_block_nil lt t hlt, hl, hr, hw]
  · have hne' : rules' ≠ [] := fun h => hne (List.map_eq_nil_iff.1 (by rw [← hev, h]; rfl))
    rw [mem_block lt t' rules' hlt hne' hs', mem_block lt t rules hlt hne hs, hl, hr, hw]
    simp only [holds_iff_outcomes, hev]

theorem block_perm_congr {lt : LinkType} (hlt : SelfJoin lt) {t t' : Table} {rules rules' : List Rule}
    (hs : SaltOK t rules) (hs' : SaltOK t' rules') (hm : t'.m = t.m)
    (hw : ∀ l r, whereCond lt t' l r = whereCond lt t l r)
    (hev : rules.map (·.eval) = rules'.map (·.eval)) :
    (block lt t rules).Perm (block lt t' rules') := by
  refine (List.perm_ext_iff_of_nodup (block_nodup_rows lt t rules) (block_nodup_rows lt t' rules')).mpr ?_
  rintro ⟨i, l, r⟩
  refine (mem_block_congr hlt hs hs' (by rw [hm]) (by rw [hm]) (hw l r) ?_ i).symm
  have := congrArg (List.map fun e : Nat → Nat → B3 => e l r) hev
  rw [List.map_map, List.map_map] at this
  exact this.symm

/-! ## `two_dataset_link_only` -/

theorem minSd_eq (t : Table) : minSd t = minOver ((List.range t.m).map t.sd) (t.sd 0) :=
  (List.foldl_map ..).symm

theorem minSd_le (t : Table) (i : Nat) (hi : i < t.m) : minSd t ≤ t.sd i :=
  minSd_eq t ▸ minOver_le_mem _ _ _ (List.mem_map_of_mem (List.mem_range.mpr hi))

theorem minSd_attained (t : Table) (hm : 0 < t.m) : ∃ i, i < t.m ∧ minSd t = t.sd i := by
  rw [minSd_eq]
  rcases minOver_mem ((List.range t.m).map t.sd) (t.sd 0) with h | h
  · exact ⟨0, hm, h⟩
  · obtain ⟨i, hi, h⟩ := List.mem_map.mp h
    exact ⟨i, List.mem_range.mp hi, h.symm⟩

/-- The records come from at most two source datasets. -/
def TwoSd (t : Table) : Prop :=
  ∀ a b c, a < t.m → b < t.m → c < t.m → t.sd a = t.sd b ∨ t.sd b = t.sd c ∨ t.sd a = t.sd c

theorem adm_two (t : Table) (htwo : TwoSd t) (l r : Nat) :
    Adm .twoDatasetLinkOnly t l r ↔ l < t.m ∧ r < t.m ∧ t.sd l < t.sd r := by
  unfold Adm
  rw [leftTable, rightTable, List.mem_filter, List.mem_filter, List.mem_range, List.mem_range, beq_iff_eq,
    bne_iff_ne]
  constructor
  · rintro ⟨⟨hl, h1⟩, ⟨hr, h2⟩, _⟩
    exact ⟨hl, hr, h1 ▸ Nat.lt_of_le_of_ne (minSd_le t r hr) (Ne.symm h2)⟩
  · rintro ⟨hl, hr, h⟩
    have h1 := minSd_le t l hl
    obtain ⟨i0, hi0, he⟩ := minSd_attained t (Nat.zero_lt_of_lt hl)
    -- `sd l` is the smaller of the at most two values, and the minimum is one of them
    have hlm : t.sd l = minSd t := by
      rcases htwo i0 l r hi0 hl hr with h' | h' | h'
      · rw [he, h']
      · exact absurd h' (Nat.ne_of_lt h)
      · rw [he, h'] at h1
        exact absurd h (Nat.not_lt.2 h1)
    exact ⟨⟨hl, hlm⟩, ⟨hr, fun e => Nat.lt_irrefl _ (hlm ▸ e ▸ h)⟩, rfl⟩

theorem explOK_two (t : Table) (htwo : TwoSd t) : ExplOK .twoDatasetLinkOnly t := by
  intro l r
  rw [adm_two t htwo]
  simp [SelfAdm, whereCond]

theorem mem_block_two_dataset (t : Table) (rules : List Rule) (hne : rules ≠ [])
    (hsalt : SaltOK t rules) (htwo : TwoSd t) (i l r : Nat) :
    (i, l, r) ∈ block .twoDatasetLinkOnly t rules ↔
      l < t.m ∧ r < t.m ∧ t.sd l < t.sd r ∧
      holds rules i l r ∧ ∀ j, j < i → ¬ holds rules j l r := by
  rw [mem_block_adm .twoDatasetLinkOnly t rules (explOK_two t htwo) hne hsalt, adm_two t htwo, first_iff_holds]
  simp only [and_assoc]

end SplinkVerif.Lemmas.Blk
