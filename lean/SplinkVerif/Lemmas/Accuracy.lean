import SplinkVerif.Model.Accuracy
import SplinkVerif.Lemmas.Lists
/-!
# Lemmas about `Model/Accuracy.lean`

Every column of the truth-space pipeline is a count of labelled pairs, written `S f xs = Σ_{x ∈ xs} f x` over indicators
`ind`.  `Counts col c` says that the column `col` of the grouped table counts the labels of class `c` (clerical
positives, clerical negatives, all of them); by `S_by_key` (the per-group counts of the groups whose key passes `q` add
up to the count of the rows whose key passes `q`) the two cumulative windows and the totals of such a column are counts
again (`gs_atOrAbove`, `gs_below`, `gs_total`).  Hence the normal form `truthRows_eq_recount`: CTEs 1–6 return one row
of recounts (`recountRow`) for every distinct adjusted score.  Recount, conservation and monotonicity are read off it.
-/
namespace SplinkVerif.Lemmas.Acc
open SplinkVerif SplinkVerif.Accuracy SplinkVerif.Lemmas

def ind (b : Bool) : Int := if b then 1 else 0

theorem ind_split (a b : Bool) : ind a = ind (a && b) + ind (a && !b) := by
  cases a
  · rfl
  · cases b <;> rfl

theorem ind_split_left (a b : Bool) : ind b = ind (a && b) + ind (!a && b) := by
  cases a
  · cases b <;> rfl
  · cases b <;> rfl

theorem ind_le_split (c : Bool) (a t : Int) :
    ind (c && decide (a ≤ t)) = ind (c && decide (a < t)) + ind (c && a == t) := by
  cases c
  · rfl
  · rw [Bool.true_and, Bool.true_and, Bool.true_and]
    rcases Int.lt_trichotomy a t with h | rfl | h
    · rw [decide_eq_true (Int.le_of_lt h), decide_eq_true h, beq_false_of_ne (Int.ne_of_lt h)]
      rfl
    · rw [decide_eq_true (Int.le_refl a), decide_eq_false (Int.lt_irrefl a), beq_self_eq_true]
      rfl
    · rw [decide_eq_false (Int.not_le.2 h), decide_eq_false (Int.lt_asymm h), beq_false_of_ne (Int.ne_of_gt h)]
      rfl

theorem ind_add_not (a : Bool) : ind a + ind (!a) = 1 := by cases a <;> rfl

theorem ind_mono {a b : Bool} (h : a = true → b = true) : ind a ≤ ind b := by
  cases a
  · cases b <;> decide
  · rw [h rfl]
    decide

theorem ind_mono_and (c : Bool) {a b : Bool} (h : a = true → b = true) : ind (c && a) ≤ ind (c && b) := by
  cases c
  · exact Int.le_refl 0
  · exact ind_mono h

theorem decide_lt_eq (a t : Int) : decide (a < t) = !decide (a ≥ t) := by
  rw [← decide_not]
  exact decide_eq_decide.mpr Int.not_le.symm

theorem ind_split_ge (c : Bool) (a t : Int) :
    ind c = ind (c && decide (a ≥ t)) + ind (c && decide (a < t)) := by
  rw [decide_lt_eq]
  exact ind_split _ _

def S (f : Scored → Int) (xs : List Scored) : Int := (xs.map f).sum

theorem S_nil (f : Scored → Int) : S f [] = 0 := rfl
theorem S_cons (f : Scored → Int) (x : Scored) (xs : List Scored) : S f (x :: xs) = f x + S f xs :=
  List.sum_cons

theorem S_add {f g h : Scored → Int} (hp : ∀ x, f x = g x + h x) (xs : List Scored) :
    S f xs = S g xs + S h xs := by
  induction xs with
  | nil => rfl
  | cons x xs ih =>
    rw [S_cons, S_cons, S_cons, ih, hp x]
    omega

theorem S_le {f g : Scored → Int} (hp : ∀ x, f x ≤ g x) (xs : List Scored) : S f xs ≤ S g xs := by
  induction xs with
  | nil => exact Int.le_refl 0
  | cons x xs ih =>
    rw [S_cons, S_cons]
    exact Int.add_le_add (hp x) ih

theorem countP_eq_S (p : Scored → Bool) (xs : List Scored) : ((xs.countP p : Nat) : Int) = S (fun x => ind (p x)) xs := by
  induction xs with
  | nil => rfl
  | cons x xs ih =>
    rw [S_cons, ← ih, List.countP_cons]
    cases p x
    · simp [ind]
    · simp [ind]
      omega

theorem length_eq_S (xs : List Scored) : (xs.length : Int) = S (fun _ => 1) xs := Lists.length_eq_sum_one xs

/-- `Lists.count_by_key` on indicator sums. -/
theorem S_by_key (c : Scored → Bool) (key : Scored → Int) (q : Int → Bool) {ks : List Int} (hnd : ks.Nodup)
    (xs : List Scored) (hall : ∀ x ∈ xs, key x ∈ ks) :
    ((ks.filter q).map fun k => S (fun x => ind (c x && key x == k)) xs).sum
      = S (fun x => ind (c x && q (key x))) xs := by
  simp only [← countP_eq_S, Lists.sum_map_natCast]
  exact congrArg Nat.cast (Lists.count_by_key xs c key q ks hnd hall)

theorem mem_distinct (a : Int) (l : List Int) : a ∈ distinct l ↔ a ∈ l := by
  induction l with
  | nil => exact Iff.rfl
  | cons b l ih =>
    rw [distinct, List.mem_cons, ← ih]
    split
    · next hb => exact ⟨Or.inr, fun h => h.elim (fun e => e ▸ hb) id⟩
    · exact List.mem_cons

theorem distinct_nodup (l : List Int) : (distinct l).Nodup := by
  induction l with
  | nil => exact List.nodup_nil
  | cons b l ih =>
    rw [distinct]
    split
    · exact ih
    · next hb => exact List.nodup_cons.mpr ⟨hb, ih⟩

end SplinkVerif.Lemmas.Acc

namespace SplinkVerif.Lemmas.AccSql
open SplinkVerif.Accuracy

/-- One group of the model's `grouped` (`grouped_eq`).  It carries the namespace of the SQL-level results of
`Lemmas/AccSql.lean`, whose statements mention it, and stands here because `Counts` below is stated with it. -/
def groupOf (ys : List PosNegAdj) (k : Int) : Grouped :=
  { truthThreshold := k
    numRecordsInRow := (ys.filter (fun x => x.truthThresholdAdj == k)).length
    clericalPositive := ((ys.filter (fun x => x.truthThresholdAdj == k)).map (·.clericalPositive)).sum
    clericalNegative := ((ys.filter (fun x => x.truthThresholdAdj == k)).map (·.clericalNegative)).sum }

end SplinkVerif.Lemmas.AccSql

namespace SplinkVerif.Lemmas.Acc
open SplinkVerif SplinkVerif.Accuracy
open SplinkVerif.Lemmas.AccSql (groupOf)

theorem grouped_eq (ys : List PosNegAdj) :
    grouped ys = (distinct (ys.map (·.truthThresholdAdj))).map (groupOf ys) := rfl

/-- CTE 1 ∘ CTE 2 on one row. -/
def adjRow (cfg : Cfg) (x : Scored) : PosNegAdj :=
  { truthThresholdAdj := adjScore cfg x
    clericalPositive := ind (isPos cfg x)
    clericalNegative := ind (!isPos cfg x) }

theorem adj_eq (cfg : Cfg) (xs : List Scored) :
    labelsWithPosNegTtAdj cfg (labelsWithPosNeg cfg xs) = xs.map (adjRow cfg) := by
  unfold labelsWithPosNegTtAdj labelsWithPosNeg
  rw [List.map_map]
  apply List.map_congr_left
  intro x _
  simp only [Function.comp, adjRow, adjScore, isPos, ind]
  by_cases h : x.score ≥ cfg.thresholdActual <;> simp [h]

section main
variable (cfg : Cfg) (xs : List Scored)

/-- Summing a column `f` that holds the indicator of the class `c` over the rows whose key satisfies `q` counts the
labels of class `c` whose adjusted score satisfies `q`. -/
theorem rows_sum {f : PosNegAdj → Int} {c : Scored → Bool} (hf : ∀ x, f (adjRow cfg x) = ind (c x))
    (q : Int → Bool) :
    (((xs.map (adjRow cfg)).filter fun y => q y.truthThresholdAdj).map f).sum
      = S (fun x => ind (c x && q (adjScore cfg x))) xs := by
  induction xs with
  | nil => rfl
  | cons x xs ih =>
    rw [S_cons, ← ih, List.map_cons, List.filter_cons]
    show (List.map f (if q (adjScore cfg x) = true then _ else _)).sum = _
    cases q (adjScore cfg x)
    · simp [ind]
    · simp [hf]

/-- The column `col` of the grouped table counts the labels of class `c`. -/
def Counts (col : Grouped → Int) (c : Scored → Bool) : Prop :=
  ∀ (xs : List Scored) (k : Int),
    col (groupOf (xs.map (adjRow cfg)) k) = S (fun x => ind (c x && adjScore cfg x == k)) xs

theorem counts_pos : Counts cfg (·.clericalPositive) (isPos cfg) :=
  fun xs k => rows_sum cfg xs (fun _ => rfl) (· == k)

theorem counts_neg : Counts cfg (·.clericalNegative) (fun x => !isPos cfg x) :=
  fun xs k => rows_sum cfg xs (fun _ => rfl) (· == k)

theorem counts_num : Counts cfg (·.numRecordsInRow) (fun _ => true) :=
  fun xs k => (Lists.length_eq_sum_one _).trans (rows_sum cfg xs (fun _ => rfl) (· == k))

def gsOf : List Grouped := grouped (xs.map (adjRow cfg))

theorem truthRows_eq :
    truthRows cfg xs = truthStats (statsAdj cfg.totalLabels (groupedWithStats (gsOf cfg xs))) := by
  unfold truthRows gsOf
  rw [adj_eq]

theorem gs_keys : (gsOf cfg xs).map (·.truthThreshold) = distinct (xs.map (adjScore cfg)) := by
  unfold gsOf
  rw [grouped_eq, List.map_map, List.map_map]
  exact List.map_id _

variable {cfg xs} {col : Grouped → Int} {c : Scored → Bool}

/-- The column of a group counts the labels of the class scored exactly at the group's threshold. -/
theorem gs_at (h : Counts cfg col c) {g : Grouped} (hg : g ∈ gsOf cfg xs) :
    col g = S (fun x => ind (c x && adjScore cfg x == g.truthThreshold)) xs := by
  obtain ⟨k, _, rfl⟩ := List.mem_map.mp hg
  exact h xs k

/-- Window and total sums of a column of the grouped table, as counts of labels. -/
theorem gs_sum (h : Counts cfg col c) (q : Int → Bool) :
    (((gsOf cfg xs).filter fun g => q g.truthThreshold).map col).sum
      = S (fun x => ind (c x && q (adjScore cfg x))) xs := by
  unfold gsOf
  rw [grouped_eq, List.filter_map, List.map_map]
  refine Eq.trans ?_ (S_by_key c (adjScore cfg) q
    (ks := distinct ((xs.map (adjRow cfg)).map (·.truthThresholdAdj))) (distinct_nodup _) xs
    fun x hx => (mem_distinct _ _).mpr (List.mem_map.mpr ⟨_, List.mem_map_of_mem hx, rfl⟩))
  exact congrArg List.sum (List.map_congr_left fun k _ => h xs k)

theorem gs_total (h : Counts cfg col c) : ((gsOf cfg xs).map col).sum = S (fun x => ind (c x)) xs := by
  have := gs_sum (xs := xs) h fun _ => true
  rwa [List.filter_eq_self.mpr fun _ _ => rfl, funext fun x => congrArg ind (Bool.and_true (c x))] at this

/-- `sum(col) over (order by truth_threshold desc)` counts the labels of the class scored at or above the threshold. -/
theorem gs_atOrAbove (h : Counts cfg col c) (g : Grouped) :
    windowDesc (gsOf cfg xs) col g = S (fun x => ind (c x && decide (adjScore cfg x ≥ g.truthThreshold))) xs :=
  gs_sum h fun a => decide (a ≥ g.truthThreshold)

/-- `sum(col) over (order by truth_threshold) - col` counts the labels of the class scored below the threshold. -/
theorem gs_below (h : Counts cfg col c) {g : Grouped} (hg : g ∈ gsOf cfg xs) :
    windowAsc (gsOf cfg xs) col g - col g
      = S (fun x => ind (c x && decide (adjScore cfg x < g.truthThreshold))) xs := by
  have := S_add (fun x => ind_le_split (c x) (adjScore cfg x) g.truthThreshold) xs
  have w : windowAsc (gsOf cfg xs) col g = _ := gs_sum h fun a => decide (a ≤ g.truthThreshold)
  rw [w, gs_at h hg]
  omega

variable (cfg xs)

/-- `true && q x`: the class of `counts_num` is `fun _ => true`. -/
theorem S_split_pos (q : Scored → Bool) :
    S (fun x => ind (true && q x)) xs
      = S (fun x => ind (isPos cfg x && q x)) xs + S (fun x => ind (!isPos cfg x && q x)) xs :=
  S_add (fun x => ind_split_left (isPos cfg x) (q x)) xs

theorem S_split_thr (c : Scored → Bool) (t : Int) :
    S (fun x => ind (c x)) xs = S (fun x => ind (c x && decide (adjScore cfg x ≥ t))) xs
      + S (fun x => ind (c x && decide (adjScore cfg x < t))) xs :=
  S_add (fun x => ind_split_ge (c x) (adjScore cfg x) t) xs

theorem S_mono_thr (c : Scored → Bool) {q q' : Int → Bool} (h : ∀ a, q a = true → q' a = true) :
    S (fun x => ind (c x && q (adjScore cfg x))) xs ≤ S (fun x => ind (c x && q' (adjScore cfg x))) xs :=
  S_le (fun x => ind_mono_and (c x) (h _)) xs

theorem length_eq_pos_add_neg : (xs.length : Int) = S (fun x => ind (isPos cfg x)) xs + S (fun x => ind (!isPos cfg x)) xs :=
  (length_eq_S xs).trans (S_add (fun x => (ind_add_not (isPos cfg x)).symm) xs)

/-- The implicit negatives: `total_labels - (number of labelled pairs)` in column mode, none for a labels table. -/
def ghosts : Int :=
  match cfg.totalLabels with
  | none => 0
  | some t => t - xs.length

/-- The row of the truth table at threshold `t`: every column a recount of the labelled pairs. -/
def recountRow (t : Int) : TruthRow :=
  { truthThreshold := t
    total := (xs.length : Int) + ghosts cfg xs
    p := S (fun x => ind (isPos cfg x)) xs
    n := S (fun x => ind (!isPos cfg x)) xs + ghosts cfg xs
    fp := S (fun x => ind (!isPos cfg x && decide (adjScore cfg x ≥ t))) xs
    tp := S (fun x => ind (isPos cfg x && decide (adjScore cfg x ≥ t))) xs
    fn := S (fun x => ind (isPos cfg x && decide (adjScore cfg x < t))) xs
    tn := S (fun x => ind (!isPos cfg x && decide (adjScore cfg x < t))) xs + ghosts cfg xs }

/-- CTE 5 and CTE 6 as one map, on a stats table whose totals add up to `len`: the implicit negatives
`e = total_labels - len` of column mode (none for a labels table) go to TN, N and the total. -/
theorem truthStats_adj (tl : Option Int) {len e : Int} (he : e = match tl with | none => 0 | some t => t - len)
    (ss : List Stats) (h : ∀ s ∈ ss, s.totalLabels = len ∧ s.totalPos + s.totalNeg = len) :
    truthStats (statsAdj tl ss) = ss.map fun s =>
      { truthThreshold := s.truthThreshold, total := len + e, p := s.totalPos, n := s.totalNeg + e,
        fp := s.numAtOrAbove - s.cumPosAtOrAbove, tp := s.cumPosAtOrAbove, fn := s.numBelow - s.cumNegBelow,
        tn := s.cumNegBelow + e } := by
  unfold truthStats
  subst he
  cases tl with
  | none =>
    refine List.map_congr_left fun s hs => ?_
    rw [(h s hs).1]
    simp only [Int.add_zero]
  | some t =>
    rw [statsAdj, List.map_map]
    refine List.map_congr_left fun s hs => ?_
    obtain ⟨h1, h2⟩ := h s hs
    rw [Function.comp, TruthRow.mk.injEq]
    refine ⟨rfl, ?_, rfl, ?_, rfl, rfl, ?_, ?_⟩
    all_goals
      dsimp only
      omega

/-- **Normal form of CTEs 1–6**: one row of recounts for every distinct adjusted score. -/
theorem truthRows_eq_recount :
    truthRows cfg xs = (distinct (xs.map (adjScore cfg))).map (recountRow cfg xs) := by
  have tp := gs_total (xs := xs) (counts_pos cfg)
  have tn := gs_total (xs := xs) (counts_neg cfg)
  have tl := (gs_total (xs := xs) (counts_num cfg)).trans (length_eq_S xs).symm
  rw [truthRows_eq, truthStats_adj cfg.totalLabels (len := xs.length) (e := ghosts cfg xs) rfl, ← gs_keys,
    groupedWithStats, List.map_map, List.map_map]
  · refine List.map_congr_left fun g hg => ?_
    -- the windows over `num_records_in_row` count both classes, those over the other two columns one class
    have a := gs_atOrAbove (xs := xs) (counts_num cfg) g
    have b := gs_below (counts_num cfg) hg
    rw [S_split_pos cfg xs fun x => decide (adjScore cfg x ≥ g.truthThreshold)] at a
    rw [S_split_pos cfg xs fun x => decide (adjScore cfg x < g.truthThreshold)] at b
    have p := gs_atOrAbove (xs := xs) (counts_pos cfg) g
    have n := gs_below (counts_neg cfg) hg
    simp only [Function.comp, recountRow]
    rw [TruthRow.mk.injEq]
    exact ⟨rfl, rfl, tp, congrArg (· + _) tn, by omega, p, by omega, congrArg (· + _) n⟩
  · intro s hs
    obtain ⟨g, _, rfl⟩ := List.mem_map.mp hs
    refine ⟨tl, ?_⟩
    rw [tp, tn]
    exact (length_eq_pos_add_neg cfg xs).symm

theorem mem_truthRows {r : TruthRow} (hr : r ∈ truthRows cfg xs) :
    ∃ t, (∃ x ∈ xs, adjScore cfg x = t) ∧ r = recountRow cfg xs t := by
  rw [truthRows_eq_recount] at hr
  obtain ⟨t, ht, rfl⟩ := List.mem_map.mp hr
  exact ⟨t, List.mem_map.mp ((mem_distinct _ _).mp ht), rfl⟩

theorem thresholds_eq :
    (truthRows cfg xs).map (·.truthThreshold) = distinct (xs.map (adjScore cfg)) := by
  rw [truthRows_eq_recount, List.map_map]
  exact List.map_id _

/-- number of labelled pairs satisfying `p` -/
def cnt (p : Scored → Bool) : Int := ((xs.countP p : Nat) : Int)

theorem recount_rows {r : TruthRow} (hr : r ∈ truthRows cfg xs) :
    r.tp = cnt xs (fun x => isPos cfg x && decide (adjScore cfg x ≥ r.truthThreshold)) ∧
    r.fp = cnt xs (fun x => !isPos cfg x && decide (adjScore cfg x ≥ r.truthThreshold)) ∧
    r.fn = cnt xs (fun x => isPos cfg x && decide (adjScore cfg x < r.truthThreshold)) ∧
    r.tn = cnt xs (fun x => !isPos cfg x && decide (adjScore cfg x < r.truthThreshold)) + ghosts cfg xs ∧
    r.p = cnt xs (fun x => isPos cfg x) ∧
    r.n = cnt xs (fun x => !isPos cfg x) + ghosts cfg xs ∧
    r.total = (xs.length : Int) + ghosts cfg xs := by
  obtain ⟨t, _, rfl⟩ := mem_truthRows cfg xs hr
  unfold cnt
  simp only [countP_eq_S]
  exact ⟨rfl, rfl, rfl, rfl, rfl, rfl, rfl⟩

theorem conservation_rows {r : TruthRow} (hr : r ∈ truthRows cfg xs) :
    r.tp + r.fn = r.p ∧ r.tn + r.fp = r.n ∧ r.p + r.n = r.total := by
  obtain ⟨t, _, rfl⟩ := mem_truthRows cfg xs hr
  have a := S_split_thr cfg xs (isPos cfg) t
  have b := S_split_thr cfg xs (fun x => !isPos cfg x) t
  have c := length_eq_pos_add_neg cfg xs
  dsimp only [recountRow]
  omega

theorem monotone_rows {r₁ r₂ : TruthRow} (h₁ : r₁ ∈ truthRows cfg xs) (h₂ : r₂ ∈ truthRows cfg xs)
    (hle : r₁.truthThreshold ≤ r₂.truthThreshold) :
    r₂.tp ≤ r₁.tp ∧ r₂.fp ≤ r₁.fp ∧ r₁.tn ≤ r₂.tn ∧ r₁.fn ≤ r₂.fn := by
  obtain ⟨t₁, _, rfl⟩ := mem_truthRows cfg xs h₁
  obtain ⟨t₂, _, rfl⟩ := mem_truthRows cfg xs h₂
  have ge (c : Scored → Bool) := S_mono_thr cfg xs c
    (q := fun a => decide (a ≥ t₂)) (q' := fun a => decide (a ≥ t₁))
    fun a h => decide_eq_true (Int.le_trans hle (of_decide_eq_true h))
  have lt (c : Scored → Bool) := S_mono_thr cfg xs c
    (q := fun a => decide (a < t₁)) (q' := fun a => decide (a < t₂))
    fun a h => decide_eq_true (Int.lt_of_lt_of_le (of_decide_eq_true h) hle)
  exact ⟨ge _, ge _, Int.add_le_add_right (lt _) _, lt _⟩

theorem mem_truthSpace {r : TruthRow} (hr : r ∈ truthSpace cfg xs) :
    r ∈ truthRows cfg xs ∧ r.truthThreshold ≥ cfg.cutoff :=
  ⟨(List.mem_filter.mp hr).1, of_decide_eq_true (List.mem_filter.mp hr).2⟩

variable {cfg} in
/-- With the option on, a pair counts at or above a threshold beyond the sentinel iff it was found and its bucketed
weight does. -/
theorem adjScore_ge (hopt : cfg.scoreNotFoundAsZero = true) {t : Int} (hs : cfg.sentinel < t) (x : Scored) :
    decide (adjScore cfg x ≥ t) = (x.found && decide (cfg.bucket x.weight ≥ t)) := by
  unfold adjScore
  rw [hopt, if_pos rfl]
  cases x.found
  · exact decide_eq_false (Int.not_le.mpr hs)
  · rfl

variable {cfg} in
theorem adjScore_lt (hopt : cfg.scoreNotFoundAsZero = true) {t : Int} (hs : cfg.sentinel < t) (x : Scored) :
    decide (adjScore cfg x < t) = (!x.found || decide (cfg.bucket x.weight < t)) := by
  rw [decide_lt_eq, adjScore_ge hopt hs, Bool.not_and, ← decide_lt_eq]

theorem not_found_rows (hopt : cfg.scoreNotFoundAsZero = true) {r : TruthRow} (hr : r ∈ truthRows cfg xs)
    (hs : cfg.sentinel < r.truthThreshold) :
    r.tp = cnt xs (fun x => isPos cfg x && (x.found && decide (cfg.bucket x.weight ≥ r.truthThreshold))) ∧
    r.fp = cnt xs (fun x => !isPos cfg x && (x.found && decide (cfg.bucket x.weight ≥ r.truthThreshold))) ∧
    r.fn = cnt xs (fun x => isPos cfg x && (!x.found || decide (cfg.bucket x.weight < r.truthThreshold))) ∧
    r.tn = cnt xs (fun x => !isPos cfg x && (!x.found || decide (cfg.bucket x.weight < r.truthThreshold)))
            + ghosts cfg xs := by
  obtain ⟨h1, h2, h3, h4, _⟩ := recount_rows cfg xs hr
  simp only [adjScore_ge hopt hs, adjScore_lt hopt hs] at h1 h2 h3 h4
  exact ⟨h1, h2, h3, h4⟩

end main

theorem lower_swap (a b : Nat) (s : Int) :
    lowerIdToLeftHandSide ⟨a, b, s⟩ = lowerIdToLeftHandSide ⟨b, a, s⟩ := by
  unfold lowerIdToLeftHandSide
  rcases Nat.lt_trichotomy a b with h | rfl | h
  · rw [if_pos h, if_neg (Nat.lt_asymm h)]
  · rfl
  · rw [if_neg (Nat.lt_asymm h), if_pos h]

end SplinkVerif.Lemmas.Acc
