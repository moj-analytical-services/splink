import SplinkVerif.Model.EM
import SplinkVerif.Lemmas.Score
import SplinkVerif.Lemmas.Lists
import Mathlib.Algebra.BigOperators.Group.List.Basic
/-!
# The M-step of `Model/EM.lean` at `ℝ` as list sums

The model's folds are sums (`mCount_eq` … `lambdaNew_eq`); the denominators, defined as sums over the
groups of observed values, are sums over the non-null rows (`sum_groups` of this file, `denomM_rows`); `newM` and
`newU` by whether the value is observed; `updateLevel` with projections for its `let`-patterns, and `zipWith3Idx`
position by position.  Sums do not depend on the order of the rows, hence neither does the M-step
(`InvEM.step_perm`).
-/
namespace SplinkVerif.Lemmas.EM
open SplinkVerif SplinkVerif.Score SplinkVerif.EM SplinkVerif.Lemmas.Score

theorem foldl_add_eq {β : Type} (l : List β) (g : β → ℝ) (a : ℝ) :
    l.foldl (fun acc r => Num.add acc (g r)) a = a + (l.map g).sum := by
  induction l generalizing a with
  | nil => simp
  | cons x l ih =>
    rw [List.foldl_cons, ih, List.map_cons, List.sum_cons, num_add]
    ring

theorem sumBy_eq (rows : List (Row ℝ)) (f : Row ℝ → ℝ) : sumBy rows f = (rows.map f).sum := by
  unfold sumBy
  rw [foldl_add_eq]
  simp

theorem mCount_eq (θ : Params ℝ) (rows : List (Row ℝ)) (ci : Nat) (v : Int) :
    mCount θ rows ci v =
      ((rows.filter fun r => gammaAt θ r ci == some v).map
        fun r => eProb θ r * (r.count : ℝ)).sum := by
  unfold mCount
  rw [sumBy_eq]
  rfl

theorem uCount_eq (θ : Params ℝ) (rows : List (Row ℝ)) (ci : Nat) (v : Int) :
    uCount θ rows ci v =
      ((rows.filter fun r => gammaAt θ r ci == some v).map
        fun r => (1 - eProb θ r) * (r.count : ℝ)).sum := by
  unfold uCount
  rw [sumBy_eq]
  rfl

theorem denomM_eq (θ : Params ℝ) (rows : List (Row ℝ)) (ci : Nat) :
    denomM θ rows ci = ((observedValues θ rows ci).map (mCount θ rows ci)).sum := by
  unfold denomM
  rw [foldl_add_eq]
  simp

theorem denomU_eq (θ : Params ℝ) (rows : List (Row ℝ)) (ci : Nat) :
    denomU θ rows ci = ((observedValues θ rows ci).map (uCount θ rows ci)).sum := by
  unfold denomU
  rw [foldl_add_eq]
  simp

theorem sum_filter_or {β M : Type} [AddCommMonoid M] (xs : List β) (p q : β → Bool) (f : β → M)
    (hd : ∀ x ∈ xs, p x = true → q x = true → False) :
    ((xs.filter fun x => p x || q x).map f).sum =
      ((xs.filter p).map f).sum + ((xs.filter q).map f).sum := by
  induction xs with
  | nil => simp
  | cons a xs ih =>
    have ih' := ih fun x hx => hd x (List.mem_cons_of_mem _ hx)
    have ha := hd a (List.mem_cons_self ..)
    rw [List.filter_cons, List.filter_cons (p := p), List.filter_cons (p := q)]
    cases hp : p a <;> cases hq : q a
    · exact ih'
    · exact (congrArg (f a + ·) ih').trans (add_left_comm _ _ _)
    · exact (congrArg (f a + ·) ih').trans (add_assoc _ _ _).symm
    · exact absurd (ha hp hq) id

theorem sum_groups {β κ M : Type} [BEq κ] [LawfulBEq κ] [AddCommMonoid M] (xs : List β)
    (key : β → κ) (f : β → M) (ks : List κ) (hn : ks.Nodup) :
    (ks.map fun k => ((xs.filter fun x => key x == k).map f).sum).sum =
      ((xs.filter fun x => ks.contains (key x)).map f).sum := by
  induction ks with
  | nil => simp
  | cons k ks ih =>
    rw [List.nodup_cons] at hn
    simp only [List.map_cons, List.sum_cons, List.contains_cons, ih hn.2]
    rw [sum_filter_or]
    intro x _ h1 h2
    exact hn.1 (beq_iff_eq.mp h1 ▸ List.contains_iff_mem.mp h2)

/-! ## `observedValues` -/

theorem mem_observedValues (θ : Params ℝ) (rows : List (Row ℝ)) (ci : Nat) (v : Int) :
    v ∈ observedValues θ rows ci ↔ (∃ r ∈ rows, gammaAt θ r ci = some v) ∧ v ≠ -1 := by
  unfold observedValues
  rw [List.mem_eraseDups, List.mem_filter, List.mem_filterMap, bne_iff_ne]

theorem nodup_observedValues (θ : Params ℝ) (rows : List (Row ℝ)) (ci : Nat) :
    (observedValues θ rows ci).Nodup :=
  Lists.nodup_eraseDups _

/-- the row's γ for comparison `ci` is a level other than the null level (a row that survives `where comparison_vector_value != -1`) -/
def nonNull (θ : Params ℝ) (ci : Nat) (r : Row ℝ) : Bool :=
  match gammaAt θ r ci with | some v => v != -1 | none => false

theorem sum_observed (θ : Params ℝ) (rows : List (Row ℝ)) (ci : Nat) (w : Row ℝ → ℝ) :
    ((observedValues θ rows ci).map fun v =>
        ((rows.filter fun r => gammaAt θ r ci == some v).map w).sum).sum =
      ((rows.filter (nonNull θ ci)).map w).sum := by
  have h := sum_groups rows (fun r => gammaAt θ r ci) w _
    ((nodup_observedValues θ rows ci).map (Option.some_injective _))
  rw [List.map_map] at h
  refine h.trans (congrArg (fun l => (l.map w).sum) (List.filter_congr fun r hr => ?_))
  unfold nonNull
  cases hg : gammaAt θ r ci with
  | none => simp
  | some v =>
    rw [Bool.eq_iff_iff, List.contains_iff_mem, List.mem_map_of_injective (Option.some_injective _),
      mem_observedValues, bne_iff_ne]
    exact and_iff_right ⟨r, hr, hg⟩

theorem denomM_rows (θ : Params ℝ) (rows : List (Row ℝ)) (ci : Nat) :
    denomM θ rows ci =
      ((rows.filter (nonNull θ ci)).map fun r => eProb θ r * (r.count : ℝ)).sum := by
  rw [denomM_eq, List.map_congr_left (fun v _ => mCount_eq θ rows ci v), sum_observed]

theorem denomU_rows (θ : Params ℝ) (rows : List (Row ℝ)) (ci : Nat) :
    denomU θ rows ci =
      ((rows.filter (nonNull θ ci)).map fun r => (1 - eProb θ r) * (r.count : ℝ)).sum := by
  rw [denomU_eq, List.map_congr_left (fun v _ => uCount_eq θ rows ci v), sum_observed]

/-! ## `newM`, `newU`, `lambdaNew` -/

theorem newM_of_mem (θ : Params ℝ) (rows : List (Row ℝ)) (ci : Nat) (v : Int)
    (h : v ∈ observedValues θ rows ci) :
    newM θ rows ci v = some (mCount θ rows ci v / denomM θ rows ci) := by
  unfold newM
  rw [if_pos (List.contains_iff_mem.mpr h)]
  rfl

theorem newU_of_mem (θ : Params ℝ) (rows : List (Row ℝ)) (ci : Nat) (v : Int)
    (h : v ∈ observedValues θ rows ci) :
    newU θ rows ci v = some (uCount θ rows ci v / denomU θ rows ci) := by
  unfold newU
  rw [if_pos (List.contains_iff_mem.mpr h)]
  rfl

theorem newM_rows (θ : Params ℝ) (rows : List (Row ℝ)) (ci : Nat) (v : Int)
    (h : v ∈ observedValues θ rows ci) :
    newM θ rows ci v = some
      (((rows.filter fun r => gammaAt θ r ci == some v).map fun r =>
          eProb θ r * (r.count : ℝ)).sum /
        ((rows.filter (nonNull θ ci)).map fun r => eProb θ r * (r.count : ℝ)).sum) := by
  rw [newM_of_mem θ rows ci v h, mCount_eq, denomM_rows]

theorem newU_rows (θ : Params ℝ) (rows : List (Row ℝ)) (ci : Nat) (v : Int)
    (h : v ∈ observedValues θ rows ci) :
    newU θ rows ci v = some
      (((rows.filter fun r => gammaAt θ r ci == some v).map fun r =>
          (1 - eProb θ r) * (r.count : ℝ)).sum /
        ((rows.filter (nonNull θ ci)).map fun r => (1 - eProb θ r) * (r.count : ℝ)).sum) := by
  rw [newU_of_mem θ rows ci v h, uCount_eq, denomU_rows]

theorem newM_of_not_mem (θ : Params ℝ) (rows : List (Row ℝ)) (ci : Nat) (v : Int)
    (h : v ∉ observedValues θ rows ci) : newM θ rows ci v = none := by
  unfold newM
  rw [if_neg (fun hc => h (List.contains_iff_mem.mp hc))]

theorem newU_of_not_mem (θ : Params ℝ) (rows : List (Row ℝ)) (ci : Nat) (v : Int)
    (h : v ∉ observedValues θ rows ci) : newU θ rows ci v = none := by
  unfold newU
  rw [if_neg (fun hc => h (List.contains_iff_mem.mp hc))]

theorem lambdaNew_eq (θ : Params ℝ) (rows : List (Row ℝ)) :
    lambdaNew θ rows =
      (rows.map fun r => eProb θ r * (r.count : ℝ)).sum / (rows.map fun r => (r.count : ℝ)).sum := by
  unfold lambdaNew
  rw [sumBy_eq, sumBy_eq]
  rfl

theorem sum_proportions {ι : Type} (l : List ι) (new : ι → Option ℝ) (cnt : ι → ℝ) (d : ℝ)
    (hnew : ∀ v ∈ l, new v = some (cnt v / d)) (hd : d = (l.map cnt).sum) (h0 : d ≠ 0) :
    (l.map fun v => (new v).getD 0).sum = 1 := by
  rw [List.map_congr_left (g := fun v => cnt v * d⁻¹)
    (fun v hv => by rw [hnew v hv, Option.getD_some, div_eq_mul_inv]),
    List.sum_map_mul_right, ← hd, mul_inv_cancel₀ h0]

/-! ## Rows with a count against repeated rows -/

theorem filter_expand (rows : List (Row ℝ)) (p : Row ℝ → Bool)
    (hp : ∀ r : Row ℝ, p { r with count := 1 } = p r) :
    (rows.flatMap fun r => List.replicate r.count { r with count := 1 }).filter p =
      (rows.filter p).flatMap fun r => List.replicate r.count { r with count := 1 } := by
  induction rows with
  | nil => rfl
  | cons a rows ih =>
    rw [List.flatMap_cons, List.filter_append, ih, List.filter_replicate, hp a, List.filter_cons]
    cases p a
    · rfl
    · rfl

theorem sum_expand (rows : List (Row ℝ)) (w : Row ℝ → ℝ)
    (hw : ∀ r : Row ℝ, (r.count : ℝ) * w { r with count := 1 } = w r) :
    ((rows.flatMap fun r => List.replicate r.count { r with count := 1 }).map w).sum =
      (rows.map w).sum := by
  induction rows with
  | nil => rfl
  | cons a rows ih =>
    rw [List.flatMap_cons, List.map_append, List.sum_append, ih, List.map_replicate,
      List.sum_replicate, nsmul_eq_mul, hw a, List.map_cons, List.sum_cons]

/-! ## `updateLevel` and `zipWith3Idx`, the two pieces `EM.step` is made of -/

/-- `updateLevel` with the pattern-matching `let`s replaced by projections. -/
theorem updateLevel_eq (sess : Session) (θ : Params ℝ) (rows : List (Row ℝ)) (ci : Nat)
    (l : Level ℝ) (st : LevelState) :
    updateLevel sess θ rows ci l st =
      if l.isNull then (l, st) else
        let pm : ℝ × Bool :=
          if st.fixM || sess.fixM then (l.m, st.mObserved)
          else match newM θ rows ci l.cvv with
            | some x => (x, true)
            | none => (notObservedValue, false)
        let pu : ℝ × Bool :=
          if st.fixU || sess.fixU then (l.u, st.uObserved)
          else match newU θ rows ci l.cvv with
            | some x => (x, true)
            | none => (notObservedValue, false)
        ({ l with m := pm.1, u := pu.1 }, { st with mObserved := pm.2, uObserved := pu.2 }) := by
  unfold updateLevel
  cases newM θ rows ci l.cvv <;> cases newU θ rows ci l.cvv <;> rfl

theorem step_prior_fixed (sess : Session) (θ : Params ℝ) (rows : List (Row ℝ))
    (h : sess.fixLambda = true) : (EM.step sess θ rows).prior = θ.prior :=
  if_pos h

theorem notObservedValue_eq : (notObservedValue : ℝ) = 1 / 1000000 := by
  unfold notObservedValue
  simp

theorem getElem?_range_zip {β : Type} (l : List β) {n : Nat} (hn : l.length ≤ n) (k : Nat) :
    ((List.range n).zip l)[k]? = l[k]?.map (Prod.mk k) := by
  rcases Nat.lt_or_ge k l.length with h | h
  · rw [List.getElem?_eq_getElem h,
      List.getElem?_eq_getElem (by rw [List.length_zip, List.length_range]; omega),
      List.getElem_zip, List.getElem_range]
    rfl
  · rw [List.getElem?_eq_none h, List.getElem?_eq_none (by rw [List.length_zip]; omega)]
    rfl

theorem zipWith3Idx_length {β γ δ : Type} (f : Nat → β → γ → δ) (xs : List β) (ys : List γ) :
    (zipWith3Idx f xs ys).length = min xs.length ys.length := by
  unfold zipWith3Idx
  simp only [List.length_map, List.length_zip, List.length_range]
  omega

theorem zipWith3Idx_getElem? {β γ δ : Type} (f : Nat → β → γ → δ) (xs : List β) (ys : List γ)
    (i : Nat) (d : δ) (h : (zipWith3Idx f xs ys)[i]? = some d) :
    ∃ x y, xs[i]? = some x ∧ ys[i]? = some y ∧ d = f i x y := by
  unfold zipWith3Idx at h
  rw [List.getElem?_map, getElem?_range_zip _ (by simp), Option.map_map,
    Option.map_eq_some_iff] at h
  obtain ⟨⟨x, y⟩, hxy, rfl⟩ := h
  rw [List.getElem?_zip_eq_some] at hxy
  exact ⟨x, y, hxy.1, hxy.2, rfl⟩

theorem length_step_comps (sess : Session) (θ : Params ℝ) (rows : List (Row ℝ))
    (hlen : θ.comps.length = θ.states.length) :
    (EM.step sess θ rows).comps.length = θ.comps.length := by
  simp only [EM.step, List.length_map, zipWith3Idx_length]
  omega

end SplinkVerif.Lemmas.EM

/-! ## The M-step does not depend on the order of the rows

`observedValues` is an `eraseDups` list whose *order* follows the rows, so invariance is stated for the values
computed from it (`denomM`, `newM`, `step`), using `denomM_rows` (the denominator is a sum over the rows). -/

namespace SplinkVerif.Lemmas.InvEM
open SplinkVerif SplinkVerif.Score SplinkVerif.EM SplinkVerif.Lemmas.Score SplinkVerif.Lemmas.EM

section
variable (θ : Params ℝ) {rows rows' : List (Row ℝ)} (hp : rows.Perm rows')
include hp

theorem mCount_perm (ci : Nat) (v : Int) : mCount θ rows ci v = mCount θ rows' ci v := by
  rw [mCount_eq, mCount_eq, ((hp.filter _).map _).sum_eq]

theorem uCount_perm (ci : Nat) (v : Int) : uCount θ rows ci v = uCount θ rows' ci v := by
  rw [uCount_eq, uCount_eq, ((hp.filter _).map _).sum_eq]

theorem lambdaNew_perm : lambdaNew θ rows = lambdaNew θ rows' := by
  rw [lambdaNew_eq, lambdaNew_eq, (hp.map _).sum_eq, (hp.map _).sum_eq]

theorem denomM_perm (ci : Nat) : denomM θ rows ci = denomM θ rows' ci := by
  rw [denomM_rows, denomM_rows, ((hp.filter _).map _).sum_eq]

theorem denomU_perm (ci : Nat) : denomU θ rows ci = denomU θ rows' ci := by
  rw [denomU_rows, denomU_rows, ((hp.filter _).map _).sum_eq]

theorem contains_observedValues_perm (ci : Nat) (v : Int) :
    (observedValues θ rows ci).contains v = (observedValues θ rows' ci).contains v := by
  rw [Bool.eq_iff_iff, List.contains_iff_mem, List.contains_iff_mem, mem_observedValues,
    mem_observedValues]
  simp only [hp.mem_iff]

theorem newM_perm (ci : Nat) (v : Int) : newM θ rows ci v = newM θ rows' ci v := by
  unfold newM
  rw [contains_observedValues_perm θ hp, mCount_perm θ hp, denomM_perm θ hp]

theorem newU_perm (ci : Nat) (v : Int) : newU θ rows ci v = newU θ rows' ci v := by
  unfold newU
  rw [contains_observedValues_perm θ hp, uCount_perm θ hp, denomU_perm θ hp]

end

theorem step_perm (sess : Session) (θ : Params ℝ) {rows rows' : List (Row ℝ)}
    (hp : rows.Perm rows') : EM.step sess θ rows = EM.step sess θ rows' := by
  have hu : updateLevel sess θ rows = updateLevel sess θ rows' := by
    funext ci l st
    unfold updateLevel
    rw [newM_perm θ hp, newU_perm θ hp]
  unfold EM.step
  rw [hu, lambdaNew_perm θ hp]

end SplinkVerif.Lemmas.InvEM
