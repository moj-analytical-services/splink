import SplinkVerif.Model.Rel
import SplinkVerif.Model.RelOrder
import SplinkVerif.Generated.BCountSql
/-!
# The counting SQL of `blocking_analysis.py` (pre-filter count, `n_largest_blocks`) at the level of the SQL it emits

`_count_comparisons_from_blocking_rule_pre_filter_conditions_sqls` builds its statements with a Python loop over the rule's
equi-join conditions `[(l_key, r_key), …]` (any number `k ≥ 0`): the select items `l_key as key_i`, the `GROUP BY` list, the
`USING (key_0, …)` list.  That loop is hand-written here (`sideStmt`, `usingCond`, `blocksStmt`, `topStmt`: generic in `k`); the
statements that do not depend on the keys (the no-key forms, the total) are the regenerated terms of `Generated/BCountSql.lean`,
and the generic forms are proved to be *syntactically equal* to the regenerated statements of every captured run (`k = 1, 2, 3`, both
table set-ups: `C14Sql.generated_statements_are_the_loop_instances`), so a change of the emitted SQL breaks those equalities.

The key expressions are PARAMETERS (`Expr` over a row of the table the side statement reads).
Tables: self-join set-up — both sides read `__splink__df_concat`; two-table `link_only` — `input_0` / `input_1`.
-/
namespace SplinkVerif.BCountSql
open SplinkVerif.Rel

def nameConcat : String := "__splink__df_concat"
def nameL : String := "__splink__count_comparisons_from_blocking_l"
def nameR : String := "__splink__count_comparisons_from_blocking_r"
def nameBlocks : String := "__splink__block_counts"
def nameTotal : String := "__splink__total_of_block_counts"

/-- the table the left / right side statement reads -/
def tableL (two : Bool) : String := if two then "input_0" else nameConcat
def tableR (two : Bool) : String := if two then "input_1" else nameConcat

/-- `select k_0 as key_0, …, count(*) as count_x from tbl group by k_0, …` (columns key_0 … key_{k-1}, count_x) -/
def sideStmt (ks : List Expr) (tbl : String) : Rel :=
  Rel.groupBy ks [Agg.countStar] (Rel.table tbl)

/-- a conjunction as the translator writes `USING (c_0, c_1, …)`: `((c_0 AND c_1) AND …)` -/
def conj : List Expr → Expr
  | [] => Expr.lit (Val.bool true)
  | e :: es => es.foldl Expr.and e

/-- `USING (key_0, …, key_{k-1})` between two tables of `k + 1` columns: SQL equality of the key columns (NULL never joins) -/
def usingCond (k : Nat) : Expr :=
  conj ((List.range k).map fun i => Expr.cmp Cmp.eq (Expr.col i) (Expr.col (k + 1 + i)))

/-- `…_l inner join …_r using (key_0, …)` : rows `key_l…, count_l, key_r…, count_r` -/
def joined (k : Nat) : Rel :=
  Rel.join false (usingCond k) (Rel.table nameL) (Rel.table nameR) (k + 1)

/-- `count_l, count_r, count_l * count_r as block_count` over a joined row -/
def countCols (k : Nat) : List Expr :=
  [Expr.col k, Expr.col (2 * k + 1), Expr.arith Arith.mul (Expr.col k) (Expr.col (2 * k + 1))]

/-- `__splink__block_counts`: `select count_l, count_r, count_l * count_r as block_count from …_l inner join …_r using (…)` -/
def blocksStmt (k : Nat) : Rel := Rel.project (countCols k) (joined k)

/-- the last statement of `n_largest_blocks` without its `ORDER BY … LIMIT`: `select key_0, …, count_l, count_r, count_l * count_r …` -/
def topStmt (k : Nat) : Rel := Rel.project ((List.range k).map Expr.col ++ countCols k) (joined k)

/-- `order by count_l * count_r desc` over the output row of `topStmt` -/
def topKey (k : Nat) : Expr := Expr.arith Arith.mul (Expr.col k) (Expr.col (k + 1))

/-- The statement list of `_count_comparisons_from_blocking_rule_pre_filter_conditions_sqls` after `__splink__df_concat`
(`if not join_conditions:` the fixed no-key statement of the set-up; otherwise the three loop-built statements). -/
def preFilterStmts (two : Bool) (keys : List (Expr × Expr)) : List Stmt :=
  if keys.isEmpty then
    [⟨nameBlocks, if two then Gen.BCountSql.two0Blocks else Gen.BCountSql.self0Blocks⟩]
  else
    [⟨nameL, sideStmt (keys.map (·.1)) (tableL two)⟩, ⟨nameR, sideStmt (keys.map (·.2)) (tableR two)⟩,
     ⟨nameBlocks, blocksStmt keys.length⟩]

/-- `_count_comparisons_generated_from_blocking_rule`: the statements above, then the total. -/
def countStmts (two : Bool) (keys : List (Expr × Expr)) : List Stmt :=
  preFilterStmts two keys ++ [⟨nameTotal, Gen.BCountSql.self1Total⟩]

/-- `n_largest_blocks` (it enqueues a second `__splink__block_counts`, which shadows the first). -/
def nLargestStmts (two : Bool) (keys : List (Expr × Expr)) : List Stmt :=
  preFilterStmts two keys ++ [⟨nameBlocks, topStmt keys.length⟩]

/-- `__splink__block_counts` of the counting pipeline on the database `db`. -/
def blocks (two : Bool) (keys : List (Expr × Expr)) (db : Db) : List Row :=
  (runStmts db (countStmts two keys)) nameBlocks

/-- The Python post-processing of the one-row result: `None` / NaN (the sum over no rows) means 0. -/
def totalOf : List Row → Nat
  | [[Val.int i]] => i.toNat
  | _ => 0

/-- `number_of_comparisons_generated_pre_filter_conditions` -/
def preFilterTotal (two : Bool) (keys : List (Expr × Expr)) (db : Db) : Nat :=
  totalOf ((runStmts db (countStmts two keys)) nameTotal)

/-- the rows `n_largest_blocks` orders and cuts -/
def topRows (two : Bool) (keys : List (Expr × Expr)) (db : Db) : List Row :=
  (runStmts db (nLargestStmts two keys)) nameBlocks

/-- `out` is a possible result of `n_largest_blocks(n_largest = n)` -/
def IsNLargest (two : Bool) (keys : List (Expr × Expr)) (db : Db) (n : Nat) (out : List Row) : Prop :=
  IsOrderLimit (topKey keys.length) true n (topRows two keys db) out

/-- the resolution the driver evaluates -/
def nLargest (two : Bool) (keys : List (Expr × Expr)) (db : Db) (n : Nat) : List Row :=
  orderLimit (topKey keys.length) true n (topRows two keys db)

/-! ## Specification vocabulary (what the statements are meant to compute) -/

/-- the key tuple of a row -/
def keyOf (ks : List Expr) (row : Row) : List Val := ks.map (·.eval row)

/-- no component is NULL -/
def nullFree (k : List Val) : Bool := k.all (· != Val.null)

/-- number of rows of `T` whose key tuple is `k` (`GROUP BY` equality: NULL = NULL) -/
def sizeOf (ks : List Expr) (T : List Row) (k : List Val) : Nat :=
  (T.filter fun row => keyOf ks row == k).length

/-- The size of the equi-join `L ⋈ R ON l_key_0 = r_key_0 AND …` (SQL equality: pairs with a NULL key component never match). -/
def equiJoinSize (keys : List (Expr × Expr)) (L R : List Row) : Nat :=
  (L.map fun l => (R.filter fun r =>
    nullFree (keyOf (keys.map (·.1)) l) && keyOf (keys.map (·.1)) l == keyOf (keys.map (·.2)) r).length).sum

/-- The key tuples present on both sides and NULL-free, in the order of first occurrence on the left: the *blocks*. -/
def blockKeys (keys : List (Expr × Expr)) (L R : List Row) : List (List Val) :=
  ((L.map (keyOf (keys.map (·.1)))).eraseDups).filter fun k =>
    nullFree k && (R.map (keyOf (keys.map (·.2)))).contains k

/-- `count_l` / `count_r` of the block with key tuple `k` -/
def cntL (keys : List (Expr × Expr)) (L : List Row) (k : List Val) : Nat := sizeOf (keys.map (·.1)) L k
def cntR (keys : List (Expr × Expr)) (R : List Row) (k : List Val) : Nat := sizeOf (keys.map (·.2)) R k

/-- the row `(count_l, count_r, block_count)` of the block with key tuple `k` -/
def blockRow (keys : List (Expr × Expr)) (L R : List Row) (k : List Val) : Row :=
  [Val.int (cntL keys L k : Nat), Val.int (cntR keys R k : Nat), Val.int ((cntL keys L k : Nat) * (cntR keys R k : Nat))]

/-! ## `__splink__df_concat` (`vertically_concatenate_sql`, no salt, no source dataset column given)

A Python loop over the input tables: one table — `select <columns> from t`; several — the `UNION ALL` of
`select '<table alias>' as source_dataset, <columns> from t`.  `w` = the number of columns (the first table's, resolved by
name in every table; here by position: the tables list their columns in the same order). -/

/-- `select c_0, …, c_{w-1} from name` -/
def concatOne (w : Nat) (name : String) : Rel := Rel.project ((List.range w).map Expr.col) (Rel.table name)

/-- `select '<name>' as source_dataset, c_0, …, c_{w-1} from name` -/
def concatTerm (w : Nat) (name : String) : Rel :=
  Rel.project (Expr.lit (Val.str name) :: (List.range w).map Expr.col) (Rel.table name)

/-- the statement for the input tables `names` -/
def concatStmt (w : Nat) : List String → Rel
  | [] => Rel.table ""
  | [n] => concatOne w n
  | n :: ns => ns.foldl (fun acc m => Rel.union true acc (concatTerm w m)) (concatTerm w n)

/-- the rows of `__splink__df_concat` -/
def concatRows (names : List String) (db : Db) : List Row :=
  match names with
  | [n] => db n
  | _ => names.flatMap fun n => (db n).map fun row => Val.str n :: row

/-- the whole self-join pipeline of `count_comparisons_from_blocking_rule`, `__splink__df_concat` included -/
def selfCountStmts (w : Nat) (names : List String) (keys : List (Expr × Expr)) : List Stmt :=
  ⟨nameConcat, concatStmt w names⟩ :: countStmts false keys

/-! ## `_row_counts_per_input_table` -/

def nameCount : String := "__splink__df_count"

/-- `if link_type == "dedupe_only": count(*)  elif source_dataset_input_column is not None: count(*) … group by <sd>` -/
def rowCountStmt (dedupe : Bool) (sd : Expr) : Rel :=
  if dedupe then Gen.BCountSql.rowCountAll else Gen.BCountSql.rowCountBySd sd

/-- `rc_df.as_record_dict()` -/
def rowCounts (dedupe : Bool) (sd : Expr) (db : Db) : List Row := (rowCountStmt dedupe sd).eval db

/-- `[r["count"] for r in rc]` — what `calculate_cartesian` sums -/
def countsOf (rows : List Row) : List Nat :=
  rows.map fun r => match r with
    | [Val.int i] => i.toNat
    | _ => 0

end SplinkVerif.BCountSql
